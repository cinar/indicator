import Lean.Meta.Tactic.Simp.RegisterCommand
/-
  The simp sets of the per-indicator theorems; tagged in Proofs/Aligned.lean and Proofs/AgreeTac.lean (model and
  specification files carry no attributes).
-/

/-- the indicator and strategy bodies and the arithmetic helpers, unfolded down to the stateful primitives
    (`movingSum`, `sma`, `ema`, `hma`, `cumSum` … stay folded: they have rules of their own) -/
register_simp_attr ind_body

/-- `Good e w A` rewritten, constructor by constructor and primitive by primitive, into linear facts about
    the periods, and what thins out the resulting conjunction before `omega` sees it -/
register_simp_attr good

/-- the documented formulas (`PS`, `Spec`) unfolded to start/value pairs down to the window and recurrence
    formulas (`msum`, `ema`, `hma` … stay folded, only their starts are computed) -/
register_simp_attr ps_body
