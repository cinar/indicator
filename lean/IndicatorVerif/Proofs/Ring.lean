import IndicatorVerif.Model.Ring
/-
  Refinement of the ring buffer to a bounded FIFO (list, oldest first).  Core-only.
-/
namespace RingBuf
variable {α : Type}

/-- representation invariant -/
structure Inv (r : RingBuf α) : Prop where
  cap_pos : 0 < r.buffer.length
  begin_lt : r.begin_ < r.buffer.length
  end_lt : r.end_ < r.buffer.length
  empty_eq : r.empty = true → r.begin_ = r.end_

/-- numbers less than one lap apart with the same residue are equal -/
theorem mod_inj {a a' c : Nat} (h : a % c = a' % c) (h1 : a ≤ a') (h2 : a' < a + c) : a = a' := by
  have := Nat.sub_mod_eq_zero_of_mod_eq h.symm
  rw [Nat.mod_eq_of_lt (by omega)] at this
  omega

theorem new_inv (z : α) (n : Nat) (h : 0 < n) : Inv (RingBuf.new z n) := by
  constructor <;> simp [RingBuf.new, h]

theorem new_toList (z : α) (n : Nat) : (RingBuf.new z n).toList = [] := by
  simp [RingBuf.new, toList, count]

/-- position of the i-th oldest element -/
def pos (r : RingBuf α) (i : Nat) : Nat := (r.begin_ + i) % r.buffer.length

/-! ### `count` is the number `k ≤ cap` with `end = begin + k` (mod cap) that is 0 exactly when `empty` is set.
    Everything below uses `count` through these two lemmas only. -/

theorem count_spec (r : RingBuf α) (h : Inv r) :
    r.count ≤ r.buffer.length ∧ r.end_ = (r.begin_ + r.count) % r.buffer.length ∧ (r.empty = true ↔ r.count = 0) := by
  have hb := h.begin_lt; have he := h.end_lt
  unfold count
  cases hemp : r.empty with
  | true => simp [Nat.mod_eq_of_lt hb, (h.empty_eq hemp).symm]
  | false =>
    simp only [Bool.false_eq_true, if_false, false_iff]
    by_cases hbe : r.end_ = r.begin_
    · have hc := h.cap_pos
      simp only [hbe, beq_self_eq_true, if_true, Nat.add_mod_right, Nat.mod_eq_of_lt hb]
      exact ⟨Nat.le_refl _, trivial, by omega⟩
    · have e : r.end_ = (r.begin_ + (r.end_ + r.buffer.length - r.begin_) % r.buffer.length) % r.buffer.length := by
        rw [Nat.add_mod_mod, show r.begin_ + (r.end_ + r.buffer.length - r.begin_) = r.end_ + r.buffer.length by omega,
          Nat.add_mod_right, Nat.mod_eq_of_lt he]
      simp only [beq_iff_eq, hbe, if_false]
      refine ⟨Nat.le_of_lt (Nat.mod_lt _ h.cap_pos), e, fun h0 => hbe ?_⟩
      rw [h0, Nat.add_zero, Nat.mod_eq_of_lt hb] at e
      exact e

theorem count_unique (r : RingBuf α) (h : Inv r) {k : Nat} (hk : k ≤ r.buffer.length)
    (he : r.end_ = (r.begin_ + k) % r.buffer.length) (h0 : r.empty = true ↔ k = 0) : r.count = k := by
  obtain ⟨a1, a2, a3⟩ := count_spec r h
  have hc := h.cap_pos
  have e : (r.begin_ + r.count) % r.buffer.length = (r.begin_ + k) % r.buffer.length := a2.symm.trans he
  have h00 : r.count = 0 ↔ k = 0 := a3.symm.trans h0
  rcases Nat.le_total r.count k with hle | hle
  · have := mod_inj e (by omega) (by omega); omega
  · have := mod_inj e.symm (by omega) (by omega); omega

theorem count_le (r : RingBuf α) (h : Inv r) : r.count ≤ r.buffer.length := (count_spec r h).1

theorem toList_length (r : RingBuf α) : r.toList.length = r.count := by simp [toList]

theorem atIdx_eq (r : RingBuf α) (i : Nat) (hi : i < r.count) : r.atIdx i = r.toList[i]'(by simpa [toList] using hi) := by
  simp [toList, atIdx]

theorem isFull_iff (r : RingBuf α) (h : Inv r) : r.isFull = true ↔ r.count = r.buffer.length := by
  obtain ⟨_, a2, a3⟩ := count_spec r h
  have hc := h.cap_pos
  constructor
  · intro hf
    have hf : r.empty = false ∧ r.end_ = r.begin_ := by simpa [isFull] using hf
    refine count_unique r h (Nat.le_refl _) ?_ ⟨fun e => by simp [hf.1] at e, fun e => by omega⟩
    rw [Nat.add_mod_right, Nat.mod_eq_of_lt h.begin_lt]; exact hf.2
  · intro hk
    rw [hk, Nat.add_mod_right, Nat.mod_eq_of_lt h.begin_lt] at a2
    have : r.empty = false := by
      cases he : r.empty with
      | false => rfl
      | true => have := a3.mp he; omega
    simp [isFull, this, a2]

theorem isEmpty_iff (r : RingBuf α) (h : Inv r) : r.isEmpty = true ↔ r.toList = [] := by
  rw [← List.length_eq_zero_iff, toList_length]
  exact (count_spec r h).2.2

theorem getD_set_ne (l : List α) (i j : Nat) (x z : α) (h : i ≠ j) : (l.set i x).getD j z = l.getD j z := by
  simp [List.getD, h]

theorem getD_set_eq (l : List α) (i : Nat) (x z : α) (h : i < l.length) : (l.set i x).getD i z = x := by
  simp [List.getD, h]

/-! ### get -/

/-- **get** on a ring that is not empty: FIFO pop -/
theorem get_spec (r : RingBuf α) (h : Inv r) (hne : r.empty = false) :
    Inv (r.get).1 ∧ (r.get).1.buffer.length = r.buffer.length ∧ (r.get).1.count = r.count - 1 ∧
    (r.get).2 = some (r.atIdx 0) ∧ r.toList = r.atIdx 0 :: (r.get).1.toList := by
  obtain ⟨a1, a2, a3⟩ := count_spec r h
  have hb := h.begin_lt; have hc := h.cap_pos
  have hpos : r.count ≠ 0 := fun e => by simp [a3.mpr e] at hne
  have inv' : Inv (r.get).1 := by
    constructor
    · simpa [get, hne] using hc
    · simpa [get, hne, nextIndex] using Nat.mod_lt _ hc
    · simpa [get, hne] using h.end_lt
    · simp [get, hne]
  have hcnt : (r.get).1.count = r.count - 1 := by
    apply count_unique _ inv'
    · simp only [get, hne, Bool.false_eq_true, if_false]; omega
    · simp only [get, hne, Bool.false_eq_true, if_false, nextIndex]
      rw [Nat.mod_add_mod, show r.begin_ + 1 + (r.count - 1) = r.begin_ + r.count by omega]; exact a2
    · simp only [get, hne, Bool.false_eq_true, if_false, nextIndex, beq_iff_eq]
      constructor
      · intro e; rw [a2] at e
        have := mod_inj e (by omega) (by omega); omega
      · intro e; rw [a2]; congr 1; omega
  have hat : ∀ i, (r.get).1.atIdx i = r.atIdx (i + 1) := by
    intro i
    simp only [atIdx, get, hne, Bool.false_eq_true, if_false, nextIndex]
    rw [Nat.mod_add_mod, Nat.add_assoc, Nat.add_comm 1 i]
  refine ⟨inv', by simp [get, hne], hcnt, by simp [get, hne, atIdx, Nat.mod_eq_of_lt hb], ?_⟩
  obtain ⟨k, hk⟩ : ∃ k, r.count = k + 1 := ⟨r.count - 1, by omega⟩
  simp only [toList, hcnt, hk, List.range_succ_eq_map, List.map_cons, List.map_map, hat, Nat.add_sub_cancel]
  rfl

/-! ### put -/

theorem put_inv (r : RingBuf α) (x : α) (h : Inv r) : Inv (r.put x).1 := by
  have hb := h.begin_lt; have hc := h.cap_pos
  constructor
  · simp [put]; exact hc
  · simp only [put, nextIndex, List.length_set]
    split
    · exact Nat.mod_lt _ hc
    · exact hb
  · simp only [put, nextIndex, List.length_set]; exact Nat.mod_lt _ hc
  · simp [put]

/-- `Put` on a ring that is not full appends -/
theorem put_of_not_full (r : RingBuf α) (x : α) (h : Inv r) (hf : r.isFull = false) :
    (r.put x).1.count = r.count + 1 ∧ (r.put x).1.toList = r.toList ++ [x] := by
  obtain ⟨a1, a2, a3⟩ := count_spec r h
  have hlt : r.count < r.buffer.length :=
    Nat.lt_of_le_of_ne a1 (fun e => by simp [(isFull_iff r h).mpr e] at hf)
  have hcnt : (r.put x).1.count = r.count + 1 := by
    apply count_unique _ (put_inv r x h)
    · simp only [put, List.length_set]; omega
    · simp only [put, hf, Bool.false_eq_true, if_false, nextIndex, List.length_set]
      rw [a2, Nat.mod_add_mod, Nat.add_assoc]
    · simp [put]
  refine ⟨hcnt, ?_⟩
  simp only [toList, hcnt, List.range_succ, List.map_append, List.map_cons, List.map_nil]
  congr 1
  · apply List.map_congr_left
    intro i hi
    have hi := List.mem_range.mp hi
    simp only [atIdx, put, hf, Bool.false_eq_true, if_false, List.length_set]
    rw [getD_set_ne]
    rw [a2]; intro e
    have := mod_inj e.symm (by omega) (by omega); omega
  · simp only [atIdx, put, hf, Bool.false_eq_true, if_false, List.length_set]
    rw [← a2, getD_set_eq _ _ _ _ h.end_lt]

/-- `Put` on a full ring is `Get` (drop the oldest) followed by `Put` on the ring with one free slot -/
theorem put_of_full (r : RingBuf α) (x : α) (hf : r.isFull = true) :
    (r.put x).1 = ((r.get).1.put x).1 ∧ (r.get).1.isFull = false := by
  have hf' : r.empty = false ∧ r.end_ = r.begin_ := by simpa [isFull] using hf
  have hnf : (r.get).1.isFull = false := by
    simp only [get, hf'.1, Bool.false_eq_true, if_false, isFull]
    rw [BEq.comm (a := r.end_)]
    cases r.nextIndex r.begin_ == r.end_ <;> rfl
  refine ⟨?_, hnf⟩
  simp only [put, hf, hnf, if_true, Bool.false_eq_true, if_false]
  simp [get, hf'.1, nextIndex]

/-- **put**: FIFO push with overwrite of the oldest element when full. -/
theorem put_spec (r : RingBuf α) (x : α) (h : Inv r) :
    (r.put x).1.toList = (if r.isFull then r.toList.tail else r.toList) ++ [x] := by
  cases hf : r.isFull with
  | false => simp [(put_of_not_full r x h hf).2]
  | true =>
    obtain ⟨e, hnf⟩ := put_of_full r x hf
    have hne : r.empty = false := by simp [isFull] at hf; exact hf.1
    obtain ⟨i1, _, _, _, i5⟩ := get_spec r h hne
    rw [e, (put_of_not_full _ x i1 hnf).2, i5]; simp

theorem count_put (r : RingBuf α) (x : α) (h : Inv r) :
    (r.put x).1.count = if r.isFull then r.buffer.length else r.count + 1 := by
  rw [← toList_length, put_spec r x h]
  cases hf : r.isFull with
  | false => simp [toList_length]
  | true =>
    have := (isFull_iff r h).mp hf; have := h.cap_pos
    simp [toList_length]; omega

/-- when full, `Put` returns the element it displaces (the oldest) -/
theorem put_returns_oldest (r : RingBuf α) (x : α) (h : Inv r) (hf : r.isFull = true) :
    some (r.put x).2 = r.toList.head? := by
  have hf' : r.empty = false ∧ r.end_ = r.begin_ := by simpa [isFull] using hf
  rw [(get_spec r h hf'.1).2.2.2.2]
  simp [put, atIdx, hf'.2, Nat.mod_eq_of_lt h.begin_lt]

/-! ### rings written by `Put` only -/

/-- a ring that is not full has never wrapped: it begins at slot 0 and the slots not yet written still hold the
    zero value (so `Put` returns the zero value until the ring is full) -/
def Fresh (r : RingBuf α) : Prop :=
  r.count < r.buffer.length → r.begin_ = 0 ∧ ∀ i, r.count ≤ i → r.buffer.getD i r.zero = r.zero

theorem fresh_new (z : α) (n : Nat) : Fresh (RingBuf.new z n) := by
  intro _
  refine ⟨rfl, fun i _ => ?_⟩
  simp only [RingBuf.new, List.getD_eq_getElem?_getD, List.getElem?_replicate]
  split <;> rfl

/-- on a fresh ring that is not full the write position is `count` -/
theorem Fresh.end_eq {r : RingBuf α} (hfr : Fresh r) (h : Inv r) (hlt : r.count < r.buffer.length) :
    r.end_ = r.count := by
  rw [(count_spec r h).2.1, (hfr hlt).1, Nat.zero_add, Nat.mod_eq_of_lt hlt]

/-- reading a slot of a fresh ring that has not been written yet gives the zero value -/
theorem Fresh.atIdx {r : RingBuf α} (hfr : Fresh r) {j : Nat} (h1 : r.count ≤ j) (h2 : j < r.buffer.length) :
    r.atIdx j = r.zero := by
  obtain ⟨hb, hz⟩ := hfr (by omega)
  simp only [RingBuf.atIdx, hb, Nat.zero_add, Nat.mod_eq_of_lt h2]
  exact hz j h1

/-- reading all slots of a fresh ring: its contents, then zero values -/
theorem Fresh.map_atIdx {r : RingBuf α} (hfr : Fresh r) (h : Inv r) :
    (List.range r.buffer.length).map (fun j => r.atIdx j)
      = r.toList ++ List.replicate (r.buffer.length - r.toList.length) r.zero := by
  have hle := count_le r h
  apply List.ext_getElem
  · simp [toList_length]; omega
  · intro j h1 h2
    simp only [List.length_map, List.length_range] at h1
    by_cases hj : j < r.count
    · rw [List.getElem_append_left (by rw [toList_length]; exact hj)]; simp [atIdx_eq r j hj]
    · rw [List.getElem_append_right (by rw [toList_length]; omega)]; simp [hfr.atIdx (by omega) h1]

theorem fresh_put (r : RingBuf α) (x : α) (h : Inv r) (hfr : Fresh r) : Fresh (r.put x).1 := by
  intro hlt
  have hcp := count_put r x h
  have hcap : (r.put x).1.buffer.length = r.buffer.length := by simp [put]
  rw [hcap] at hlt
  cases hf : r.isFull with
  | true => simp only [hf, if_true] at hcp; omega
  | false =>
    simp only [hf, Bool.false_eq_true, if_false] at hcp
    have hlt' : r.count < r.buffer.length := by omega
    refine ⟨by simp [put, hf, (hfr hlt').1], fun i hi => ?_⟩
    simp only [put]
    rw [getD_set_ne _ _ _ _ _ (by rw [hfr.end_eq h hlt']; omega)]
    exact (hfr hlt').2 i (by omega)

/-- until it is full, a ring written by `Put` only returns the zero value from `Put` -/
theorem put_snd_of_fresh (r : RingBuf α) (x : α) (h : Inv r) (hfr : Fresh r) (hf : r.isFull = false) :
    (r.put x).2 = r.zero := by
  have hlt : r.count < r.buffer.length :=
    Nat.lt_of_le_of_ne (count_le r h) (fun e => by simp [(isFull_iff r h).mpr e] at hf)
  simp only [put, hfr.end_eq h hlt]
  exact (hfr hlt).2 _ (Nat.le_refl _)

/-- a ring of capacity `k` fed with `l` holds the last `k` values of what it held and `l` -/
theorem foldl_put (k : Nat) (l : List α) : ∀ (r : RingBuf α), Inv r → r.buffer.length = k →
    Inv (l.foldl (fun r n => (r.put n).1) r) ∧
    (l.foldl (fun r n => (r.put n).1) r).buffer.length = k ∧
    (l.foldl (fun r n => (r.put n).1) r).toList = (r.toList ++ l).drop ((r.toList ++ l).length - k) := by
  induction l with
  | nil =>
    intro r inv hlen
    have := count_le r inv
    rw [← toList_length, hlen] at this
    exact ⟨inv, hlen, by simp [show r.toList.length - k = 0 by omega]⟩
  | cons x t ih =>
    intro r inv hlen
    obtain ⟨a, b, c⟩ := ih (r.put x).1 (put_inv r x inv) (by simp [put, hlen])
    refine ⟨a, b, ?_⟩
    have hfull := isFull_iff r inv
    have hle := count_le r inv
    rw [← toList_length, hlen] at hfull hle
    rw [List.foldl_cons, c, put_spec r x inv]
    by_cases hf : r.isFull = true
    · obtain ⟨y, ys, hl⟩ := List.ne_nil_iff_exists_cons.mp
        (List.ne_nil_of_length_pos (by have := inv.cap_pos; have := hfull.mp hf; omega) : r.toList ≠ [])
      have hk := hfull.mp hf
      rw [hl] at hk ⊢
      simp only [hf, if_true, List.tail_cons, List.append_assoc, List.cons_append, List.nil_append,
        List.length_cons, List.length_append] at hk ⊢
      rw [show ys.length + (t.length + 1) + 1 - k = (ys.length + (t.length + 1) - k) + 1 by omega, List.drop_succ_cons]
    · simp only [hf, Bool.false_eq_true, if_false, List.append_assoc, List.singleton_append]

theorem foldl_put_fresh (l : List α) : ∀ (r : RingBuf α), Inv r → Fresh r →
    Fresh (l.foldl (fun r n => (r.put n).1) r) ∧ (l.foldl (fun r n => (r.put n).1) r).zero = r.zero := by
  induction l with
  | nil => intro r _ hf; exact ⟨hf, rfl⟩
  | cons x t ih => intro r inv hf; exact ih _ (put_inv r x inv) (fresh_put r x inv hf)

/-! ### all histories: refinement to the bounded FIFO -/

inductive Op (α : Type) where
  | put (x : α) | get | at (i : Nat) | isFull | isEmpty

inductive Out (α : Type) where
  | displaced (o : Option α)   -- `some oldest` when the ring was full, otherwise unspecified (`none`)
  | got (o : Option α)
  | value (o : Option α)       -- `At(i)` for `i <` number of stored elements, else unspecified
  | flag (b : Bool)
  deriving DecidableEq

/-- implementation step with the observation the specification constrains -/
def step (r : RingBuf α) : Op α → RingBuf α × Out α
  | .put x => let (r', o) := r.put x; (r', .displaced (if r.isFull then some o else none))
  | .get => let (r', o) := r.get; (r', .got o)
  | .at i => (r, .value (if i < r.count then some (r.atIdx i) else none))
  | .isFull => (r, .flag r.isFull)
  | .isEmpty => (r, .flag r.isEmpty)

/-- the bounded FIFO specification: contents oldest-first and a capacity -/
def specStep (cap : Nat) (l : List α) : Op α → List α × Out α
  | .put x => if l.length = cap then (l.tail ++ [x], .displaced l.head?) else (l ++ [x], .displaced none)
  | .get => (l.tail, .got l.head?)
  | .at i => (l, .value l[i]?)
  | .isFull => (l, .flag (l.length == cap))
  | .isEmpty => (l, .flag l.isEmpty)

def run (r : RingBuf α) : List (Op α) → List (Out α)
  | [] => []
  | op :: ops => let (r', o) := step r op; o :: run r' ops

def specRun (cap : Nat) (l : List α) : List (Op α) → List (Out α)
  | [] => []
  | op :: ops => let (l', o) := specStep cap l op; o :: specRun cap l' ops

theorem step_refines (r : RingBuf α) (h : Inv r) (op : Op α) :
    Inv (step r op).1 ∧ (step r op).1.buffer.length = r.buffer.length ∧
    (step r op).1.toList = (specStep r.buffer.length r.toList op).1 ∧
    (step r op).2 = (specStep r.buffer.length r.toList op).2 := by
  have hfull : r.isFull = (r.toList.length == r.buffer.length) := by
    rw [Bool.eq_iff_iff, beq_iff_eq, toList_length]; exact isFull_iff r h
  have hemp : r.isEmpty = r.toList.isEmpty := by
    rw [Bool.eq_iff_iff, List.isEmpty_iff]; exact isEmpty_iff r h
  cases op with
  | put x =>
    refine ⟨put_inv r x h, by simp [step, put], ?_, ?_⟩
    · simp only [step, specStep, put_spec r x h, hfull]
      split <;> simp_all
    · cases hf : r.isFull with
      | false => simp [step, specStep, hf, beq_eq_false_iff_ne.mp (hfull ▸ hf)]
      | true => simp [step, specStep, hf, beq_iff_eq.mp (hfull ▸ hf), put_returns_oldest r x h hf]
  | get =>
    cases hne : r.empty with
    | true =>
      have hl := (isEmpty_iff r h).mp hne
      simp [step, specStep, get, hne, hl, h]
    | false =>
      obtain ⟨i1, i2, _, i4, i5⟩ := get_spec r h hne
      simp [step, specStep, i1, i2, i4, i5]
  | «at» i =>
    refine ⟨h, rfl, rfl, ?_⟩
    simp only [step, specStep]
    by_cases hi : i < r.count
    · simp [hi, atIdx_eq r i hi, toList_length]
    · simp [hi, List.getElem?_eq_none (by rw [toList_length]; omega : r.toList.length ≤ i)]
  | isFull => exact ⟨h, rfl, rfl, by simp [step, specStep, hfull]⟩
  | isEmpty => exact ⟨h, rfl, rfl, by simp [step, specStep, hemp]⟩

/-- **Refinement, all histories**: from any state satisfying the invariant, every operation sequence
    yields exactly the observations of the bounded FIFO started from the ring's contents. -/
theorem run_refines (ops : List (Op α)) : ∀ (r : RingBuf α), Inv r →
    run r ops = specRun r.buffer.length r.toList ops := by
  induction ops with
  | nil => intro r _; rfl
  | cons op ops ih =>
    intro r h
    obtain ⟨i1, i2, i3, i4⟩ := step_refines r h op
    simp only [run, specRun]
    rw [ih _ i1, i2, i3, i4]

/-- … in particular from a new ring of any capacity ≥ 1. -/
theorem run_new_refines (z : α) (cap : Nat) (hc : 0 < cap) (ops : List (Op α)) :
    run (RingBuf.new z cap) ops = specRun cap [] ops := by
  rw [run_refines ops _ (new_inv z cap hc), new_toList]
  simp [RingBuf.new]

end RingBuf
