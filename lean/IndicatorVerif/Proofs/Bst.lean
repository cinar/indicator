import Mathlib.Data.List.Sort
import Mathlib.Order.Basic
import IndicatorVerif.Model.Bst
/-
  The search-tree model (which mirrors the pointer algorithm of helper/bst.go) refines a sorted
  list / multiset: in-order contents, membership, removal, minimum and maximum.
-/
namespace Bst
open BTree

variable {α : Type} [LinearOrder α]

/-- the comparison operators agree with the order of the element type (true for Go's `<=`, `<`, `==` on
    integers and on floats without NaN) -/
structure Lawful (c : Cmp α) : Prop where
  le_iff : ∀ a b, c.le a b = true ↔ a ≤ b
  lt_iff : ∀ a b, c.lt a b = true ↔ a < b
  eq_iff : ∀ a b, c.eq a b = true ↔ a = b

/-- search-tree invariant: left subtree ≤ node ≤ right subtree (duplicates may sit on either side after removals) -/
def Ordered : BTree α → Prop
  | .nil => True
  | .node l v r => Ordered l ∧ Ordered r ∧ (∀ x ∈ l.toList, x ≤ v) ∧ (∀ x ∈ r.toList, v ≤ x)

theorem ordered_iff_sorted (t : BTree α) : Ordered t ↔ t.toList.Pairwise (· ≤ ·) := by
  induction t with
  | nil => simp [Ordered, toList]
  | node l v r ihl ihr =>
    simp only [Ordered, toList, List.pairwise_append, List.pairwise_cons, ihl, ihr, List.mem_cons]
    constructor
    · rintro ⟨h1, h2, h3, h4⟩
      refine ⟨h1, ⟨h4, h2⟩, ?_⟩
      intro a ha b hb
      rcases hb with rfl | hb
      · exact h3 a ha
      · exact le_trans (h3 a ha) (h4 b hb)
    · rintro ⟨h1, ⟨h4, h2⟩, h5⟩
      exact ⟨h1, h2, fun x hx => h5 x hx v (Or.inl rfl), h4⟩

/-- the three branches of a descent: `x` equals the node, or lies strictly on one side of it -/
theorem Lawful.tri {c : Cmp α} (hc : Lawful c) (x v : α) :
    (c.eq x v = true ∧ x = v) ∨ (c.eq x v = false ∧ c.lt x v = true ∧ x < v) ∨
    (c.eq x v = false ∧ c.lt x v = false ∧ v < x) := by
  have he := hc.eq_iff x v; have hl := hc.lt_iff x v
  rcases lt_trichotomy x v with h | h | h
  · exact .inr (.inl ⟨by simpa using mt he.mp h.ne, hl.mpr h, h⟩)
  · exact .inl ⟨he.mpr h, h⟩
  · exact .inr (.inr ⟨by simpa using mt he.mp h.ne', by simpa using mt hl.mp h.asymm, h⟩)

/-! ### insert -/

theorem insert_perm (c : Cmp α) (x : α) (t : BTree α) : (insert c x t).toList.Perm (x :: t.toList) := by
  induction t with
  | nil => simp [insert, toList]
  | node l v r ihl ihr =>
    simp only [insert]
    split
    · simp only [toList]
      exact (ihl.append_right _).trans (by simp)
    · simp only [toList]
      have : (l.toList ++ v :: (insert c x r).toList).Perm (l.toList ++ v :: x :: r.toList) :=
        List.Perm.append_left _ (List.Perm.cons _ ihr)
      refine this.trans ?_
      have e : l.toList ++ v :: x :: r.toList = (l.toList ++ [v]) ++ x :: r.toList := by simp
      rw [e]
      refine List.perm_middle.trans ?_
      simp

theorem mem_insert (c : Cmp α) (x y : α) (t : BTree α) : y ∈ (insert c x t).toList ↔ y = x ∨ y ∈ t.toList := by
  rw [(insert_perm c x t).mem_iff]; simp

theorem insert_ordered (c : Cmp α) (hc : Lawful c) (x : α) (t : BTree α) (h : Ordered t) : Ordered (insert c x t) := by
  induction t with
  | nil => simp [insert, Ordered, toList]
  | node l v r ihl ihr =>
    obtain ⟨h1, h2, h3, h4⟩ := h
    simp only [insert]
    split
    · rename_i hle
      refine ⟨ihl h1, h2, ?_, h4⟩
      intro y hy
      rcases (mem_insert c x y l).mp hy with rfl | hy
      · exact (hc.le_iff _ _).mp hle
      · exact h3 y hy
    · rename_i hle
      refine ⟨h1, ihr h2, h3, ?_⟩
      intro y hy
      rcases (mem_insert c x y r).mp hy with rfl | hy
      · have : ¬ y ≤ v := fun e => hle ((hc.le_iff _ _).mpr e)
        exact le_of_lt (not_le.mp this)
      · exact h4 y hy

/-! ### search -/

theorem contains_iff (c : Cmp α) (hc : Lawful c) (x : α) (t : BTree α) (h : Ordered t) :
    contains c x t = true ↔ x ∈ t.toList := by
  induction t with
  | nil => simp [contains, toList]
  | node l v r ihl ihr =>
    obtain ⟨h1, h2, h3, h4⟩ := h
    simp only [contains, toList, List.mem_append, List.mem_cons]
    rcases hc.tri x v with ⟨he, rfl⟩ | ⟨he, hl, hlt⟩ | ⟨he, hl, hgt⟩
    · simp [he]
    · simp only [he, hl, Bool.false_eq_true, if_false, if_true, ihl h1]
      exact ⟨Or.inl, fun h => h.elim id (fun h => h.elim (fun e => absurd e hlt.ne)
        (fun h => absurd (h4 x h) (not_le.mpr hlt)))⟩
    · simp only [he, hl, Bool.false_eq_true, if_false, ihr h2]
      exact ⟨fun h => Or.inr (Or.inr h), fun h => h.elim (fun h => absurd (h3 x h) (not_le.mpr hgt))
        (fun h => h.elim (fun e => absurd e hgt.ne') id)⟩

/-! ### removal -/

theorem removeMin_spec (t : BTree α) :
    (t = .nil → removeMin t = none) ∧
    (t ≠ .nil → ∃ m t', removeMin t = some (m, t') ∧ t.toList = m :: t'.toList) := by
  induction t with
  | nil => simp [removeMin]
  | node l v r ihl _ =>
    refine ⟨by simp, fun _ => ?_⟩
    cases l with
    | nil => exact ⟨v, r, by simp [removeMin], by simp [toList]⟩
    | node ll lv lr =>
      obtain ⟨m, l', e, hl⟩ := ihl.2 (by simp)
      refine ⟨m, .node l' v r, by simp [removeMin, e], ?_⟩
      simp only [toList] at hl ⊢
      rw [hl]; simp

theorem removeRoot_toList (l r : BTree α) (v : α) : (removeRoot (.node l v r)).toList = l.toList ++ r.toList := by
  cases l with
  | nil => simp [removeRoot, toList]
  | node ll lv lr =>
    cases r with
    | nil => simp [removeRoot, toList]
    | node rl rv rr =>
      obtain ⟨m, r', e, hl⟩ := (removeMin_spec (.node rl rv rr)).2 (by simp)
      simp only [removeRoot, e]
      simp only [toList] at hl ⊢
      rw [hl]

theorem remove_spec (c : Cmp α) (hc : Lawful c) (x : α) (t : BTree α) (h : Ordered t) :
    (remove c x t).2 = decide (x ∈ t.toList) ∧ (remove c x t).1.toList.Perm (t.toList.erase x) := by
  induction t with
  | nil => simp [remove, toList]
  | node l v r ihl ihr =>
    obtain ⟨h1, h2, h3, h4⟩ := h
    simp only [remove]
    rcases hc.tri x v with ⟨he, rfl⟩ | ⟨he, hl, hlt⟩ | ⟨he, hl, hgt⟩
    · simp only [he, if_true, removeRoot_toList, toList]
      refine ⟨by simp, ?_⟩
      -- erasing x from l ++ x :: r removes one occurrence: the result is a permutation of l ++ r
      have := (List.perm_middle (a := x) (l₁ := l.toList) (l₂ := r.toList)).erase x
      rw [List.erase_cons_head] at this
      exact this.symm
    · obtain ⟨i1, i2⟩ := ihl h1
      simp only [he, hl, Bool.false_eq_true, if_false, if_true, toList]
      have hnr : x ∉ r.toList := fun hx => absurd (h4 x hx) (not_le.mpr hlt)
      refine ⟨by rw [i1]; simp [hlt.ne, hnr], ?_⟩
      by_cases hxl : x ∈ l.toList
      · rw [List.erase_append_left _ hxl]; exact i2.append_right _
      · rw [List.erase_of_not_mem (by simp [hxl, hlt.ne, hnr])]
        rw [List.erase_of_not_mem hxl] at i2
        exact i2.append_right _
    · obtain ⟨i1, i2⟩ := ihr h2
      simp only [he, hl, Bool.false_eq_true, if_false, toList]
      have hnl : x ∉ l.toList := fun hx => absurd (h3 x hx) (not_le.mpr hgt)
      refine ⟨by rw [i1]; simp [hgt.ne', hnl], ?_⟩
      rw [List.erase_append_right _ hnl, List.erase_cons_tail (by simpa using hgt.ne)]
      exact List.Perm.append_left _ (List.Perm.cons _ i2)

/-- removal only deletes: the in-order contents shrink to a sublist (no hypothesis on `c` or `t`) -/
theorem remove_sublist (c : Cmp α) (x : α) (t : BTree α) : (remove c x t).1.toList.Sublist t.toList := by
  induction t with
  | nil => simp [remove, toList]
  | node l v r ihl ihr =>
    simp only [remove]
    split
    · rw [removeRoot_toList]
      exact (List.Sublist.refl _).append (List.sublist_cons_self _ _)
    · split
      · exact ihl.append (List.Sublist.refl _)
      · exact (List.Sublist.refl _).append (ihr.cons_cons _)

theorem remove_ordered (c : Cmp α) (x : α) (t : BTree α) (h : Ordered t) : Ordered (remove c x t).1 :=
  (ordered_iff_sorted _).mpr (((ordered_iff_sorted t).mp h).sublist (remove_sublist c x t))

/-! ### minimum and maximum -/

theorem min?_eq_head (t : BTree α) : min? t = t.toList.head? := by
  induction t with
  | nil => rfl
  | node l v r ihl _ =>
    cases l with
    | nil => simp [min?, toList]
    | node ll lv lr =>
      simp only [min?, ihl, toList]
      cases h : (ll.toList ++ lv :: lr.toList) with
      | nil => simp at h
      | cons a b => simp

theorem max?_eq_getLast (t : BTree α) : max? t = t.toList.getLast? := by
  induction t with
  | nil => rfl
  | node l v r _ ihr =>
    cases r with
    | nil => simp [max?, toList]
    | node rl rv rr =>
      have hm : max? (.node l v (.node rl rv rr)) = max? (.node rl rv rr) := rfl
      have hne : (BTree.node rl rv rr).toList ≠ [] := by simp [toList]
      rw [hm, ihr]
      show _ = (l.toList ++ v :: (BTree.node rl rv rr).toList).getLast?
      have e : l.toList ++ v :: (BTree.node rl rv rr).toList = (l.toList ++ [v]) ++ (BTree.node rl rv rr).toList := by simp
      rw [e, List.getLast?_append_of_ne_nil _ hne]

/-- the minimum of an ordered tree is a least element of its contents -/
theorem min?_least (t : BTree α) (h : Ordered t) (m : α) (hm : min? t = some m) :
    m ∈ t.toList ∧ ∀ y ∈ t.toList, m ≤ y := by
  obtain ⟨ys, hl⟩ := List.head?_eq_some_iff.mp ((min?_eq_head t).symm.trans hm)
  have hs := (ordered_iff_sorted t).mp h
  rw [hl] at hs ⊢
  exact ⟨List.mem_cons_self, fun y hy => (List.mem_cons.mp hy).elim (fun e => e ▸ le_rfl) (List.rel_of_pairwise_cons hs)⟩

theorem max?_greatest (t : BTree α) (h : Ordered t) (m : α) (hm : max? t = some m) :
    m ∈ t.toList ∧ ∀ y ∈ t.toList, y ≤ m := by
  obtain ⟨ys, hl⟩ := List.getLast?_eq_some_iff.mp ((max?_eq_getLast t).symm.trans hm)
  have hs := (ordered_iff_sorted t).mp h
  rw [hl] at hs ⊢
  refine ⟨by simp, fun y hy => ?_⟩
  rcases List.mem_append.mp hy with hy | hy
  · exact (List.pairwise_append.mp hs).2.2 y hy m (by simp)
  · exact le_of_eq (List.mem_singleton.mp hy)

/-- Go's `Min()` / `Max()` on a non-empty ordered tree -/
theorem minD_least (z : α) (t : BTree α) (h : Ordered t) (hne : t.toList ≠ []) :
    minD z t ∈ t.toList ∧ ∀ y ∈ t.toList, minD z t ≤ y := by
  have hm := (min?_eq_head t).trans (List.head?_eq_some_head hne)
  simp only [minD, hm, Option.getD_some]
  exact min?_least t h _ hm

theorem maxD_greatest (z : α) (t : BTree α) (h : Ordered t) (hne : t.toList ≠ []) :
    maxD z t ∈ t.toList ∧ ∀ y ∈ t.toList, y ≤ maxD z t := by
  have hm := (max?_eq_getLast t).trans (List.getLast?_eq_some_getLast hne)
  simp only [maxD, hm, Option.getD_some]
  exact max?_greatest t h _ hm

end Bst
