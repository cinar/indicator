import IndicatorVerif.Proofs.ExtremaReal
import IndicatorVerif.Proofs.Ring
/-
  Wma and MovingStd: a ring fed by `Put` only holds the last `period` values; the weighted sum over the ring
  and the running-sum standard deviation are the window formulas.
-/
noncomputable section
namespace Sig
open Ind ArithReal PS

/-- a ring of capacity `p` that has only ever been written by `Put`: contents `l`, unwritten slots still zero -/
structure Fill (r : RingBuf ℝ) (p : Nat) (l : List ℝ) : Prop where
  inv : RingBuf.Inv r
  cap : r.buffer.length = p
  zero0 : r.zero = 0
  list : r.toList = l
  fresh : r.count < p → r.begin_ = 0 ∧ ∀ j, r.count ≤ j → r.buffer.getD j 0 = 0

/-- `Fill` = invariant, capacity, contents, and `RingBuf.Fresh` for a zero value of 0 -/
theorem fill_iff (r : RingBuf ℝ) (p : Nat) (l : List ℝ) :
    Fill r p l ↔ RingBuf.Inv r ∧ r.buffer.length = p ∧ r.zero = 0 ∧ r.toList = l ∧ RingBuf.Fresh r := by
  constructor
  · rintro ⟨a, b, c, d, e⟩
    exact ⟨a, b, c, d, by subst b; unfold RingBuf.Fresh; rwa [c]⟩
  · rintro ⟨a, b, c, d, e⟩
    exact ⟨a, b, c, d, by subst b; unfold RingBuf.Fresh at e; rwa [c] at e⟩

theorem fill_new (p : Nat) (hp : 1 ≤ p) : Fill (RingBuf.new (0 : ℝ) p) p [] :=
  (fill_iff _ _ _).mpr ⟨RingBuf.new_inv 0 p (by omega), by simp [RingBuf.new], rfl, RingBuf.new_toList 0 p,
    RingBuf.fresh_new 0 p⟩

theorem fill_put (r : RingBuf ℝ) (p : Nat) (l : List ℝ) (x : ℝ) (h : Fill r p l) :
    Fill (r.put x).1 p ((if l.length = p then l.tail else l) ++ [x]) ∧
    (r.put x).2 = (if l.length = p then l.head?.getD 0 else 0) := by
  obtain ⟨hinv, hcap, hz, hlist, hfr⟩ := (fill_iff r p l).mp h
  have hfull : l.length = p ↔ r.isFull = true := by
    rw [← hlist, ← hcap, RingBuf.toList_length]; exact (RingBuf.isFull_iff r hinv).symm
  refine ⟨(fill_iff _ _ _).mpr ⟨RingBuf.put_inv r x hinv, by simp [RingBuf.put, hcap], by simp [RingBuf.put, hz], ?_,
    RingBuf.fresh_put r x hinv hfr⟩, ?_⟩
  · rw [RingBuf.put_spec r x hinv, hlist]; simp only [hfull]
  · cases hf : r.isFull with
    | true => rw [if_pos (hfull.mpr hf), ← hlist, ← RingBuf.put_returns_oldest r x hinv hf]; rfl
    | false =>
      rw [if_neg (fun e => by simp [hfull.mp e] at hf), RingBuf.put_snd_of_fresh r x hinv hfr hf, hz]

theorem lastK_length (g : Nat → ℝ) (p m : Nat) : (lastK g p m).length = min m p := SigG.lastK_length g p m

theorem lastK_step (g : Nat → ℝ) (p m : Nat) (hp : 1 ≤ p) :
    (if (lastK g p m).length = p then (lastK g p m).tail else lastK g p m) ++ [g m] = lastK g p (m + 1) := by
  rw [lastK_length, lastK_eq, lastK_eq, SigG.lastK_succ g p m hp]
  by_cases h : m < p
  · rw [if_neg (by omega), if_pos h]
  · rw [if_pos (by omega), if_neg h]

theorem lastK_head (g : Nat → ℝ) (p m : Nat) (hp : 1 ≤ p) (h : p ≤ m) : (lastK g p m).head?.getD 0 = g (m - p) := by
  rw [lastK_eq, SigG.lastK_head g p m hp h]; rfl

theorem lastK_window (g : Nat → ℝ) (p m : Nat) (h : p ≤ m + 1) : lastK g p (m + 1) = PS.window p g m :=
  SigG.lastK_window g p m h

/-! ### Wma -/

theorem wma_state (g : Nat → ℝ) (p : Nat) (hp : 1 ≤ p) (m : Nat) :
    Fill (scanSt (wmaStep p) (RingBuf.new (Ind.zero : ℝ) p) g m) p (lastK g p m) := by
  induction m with
  | zero =>
    have : (Ind.zero : ℝ) = 0 := by simp [Ind.zero]
    rw [this]; simpa [scanSt, lastK] using fill_new p hp
  | succ m ih =>
    simp only [scanSt, wmaStep]
    have := (fill_put _ p _ (g m) ih).1
    rwa [lastK_step g p m hp] at this

/-- once `p` values have gone in, the ring is full and holds the window ending at the newest one -/
theorem fill_full (r : RingBuf ℝ) (g : Nat → ℝ) (p m : Nat) (hm : p ≤ m + 1) (h : Fill r p (lastK g p (m + 1))) :
    r.isFull = true ∧ ∀ k, k < p → r.atIdx k = g (m + 1 - p + k) := by
  have hc : r.count = p := by
    rw [← RingBuf.toList_length, h.list, lastK_length]; omega
  refine ⟨(RingBuf.isFull_iff r h.inv).mpr (by rw [hc, h.cap]), fun k hk => ?_⟩
  rw [RingBuf.atIdx_eq r k (by omega)]
  simp [h.list, lastK_window g p m hm, PS.window]

theorem Agree.wma {x : Nat → Nat → ℝ} {e : Sig ℝ} {P : PS ℝ} (p : Nat) (hp : 1 ≤ p) (h : Agree x e P) :
    Agree x (Ind.wma p e) (PS.wma p P) := by
  refine Agree.scan _ _ (p - 1) _ h (fun m hm' => ?_)
  set g := fun m => P.val (P.start + m) with hgd
  have hm : p ≤ m + 1 := by omega
  have hst := wma_state g p hp (m + 1)
  simp only [scanSt] at hst
  simp only [scanOut, wmaStep]
  obtain ⟨hfull, hat⟩ := fill_full _ g p m hm hst
  simp only [wmaStep] at hfull hat
  simp only [hfull, Bool.not_true, Bool.false_eq_true, if_false, wmaSum]
  congr 1
  apply List.foldl_ext
  intro s k hk
  rw [hat k (List.mem_range.mp hk)]
  simp only [hgd]
  have e : P.start + (m + 1 - p + k) = P.start + m + 1 - p + k := by omega
  rw [e]

/-! ### MovingStd -/

/-- the running sum of a sliding window: subtract the value that leaves (the head, once the window is full), add the new one -/
theorem sum_slide (l : List ℝ) (x : ℝ) (c : Prop) [Decidable c] (hne : c → l ≠ []) :
    l.sum - (if c then l.head?.getD 0 else 0) + x = ((if c then l.tail else l) ++ [x]).sum := by
  by_cases hc : c
  · obtain ⟨y, tl, rfl⟩ := List.ne_nil_iff_exists_cons.mp (hne hc)
    simp [hc]
  · simp [hc]

theorem std_state (g : Nat → ℝ) (p : Nat) (hp : 1 ≤ p) (m : Nat) :
    Fill (scanSt (stdStep p) (RingBuf.new (Ind.zero : ℝ) p, (Ind.zero : ℝ)) g m).1 p (lastK g p m) ∧
    (scanSt (stdStep p) (RingBuf.new (Ind.zero : ℝ) p, (Ind.zero : ℝ)) g m).2 = (lastK g p m).sum := by
  induction m with
  | zero =>
    have : (Ind.zero : ℝ) = 0 := by simp [Ind.zero]
    rw [this]
    exact ⟨by simpa [scanSt, lastK] using fill_new p hp, by simp [scanSt, lastK]⟩
  | succ m ih =>
    obtain ⟨hf, hs⟩ := ih
    simp only [scanSt, stdStep]
    obtain ⟨h1, h2⟩ := fill_put _ p _ (g m) hf
    rw [lastK_step g p m hp] at h1
    refine ⟨h1, ?_⟩
    simp only [sub_eq, add_eq]
    rw [h2, hs, ← lastK_step g p m hp]
    exact sum_slide _ _ _ (fun e e0 => by rw [e0] at e; simp at e; omega)

theorem foldl_add_eq_sum {γ : Type} (f : γ → ℝ) (l : List γ) (a : ℝ) :
    l.foldl (fun s i => s + f i) a = a + (l.map f).sum := by
  induction l generalizing a with
  | nil => simp
  | cons x t ih => simp only [List.foldl_cons, List.map_cons, List.sum_cons, ih]; ring

theorem Agree.movingStd {x : Nat → Nat → ℝ} {e : Sig ℝ} {P : PS ℝ} (p : Nat) (hp : 1 ≤ p) (h : Agree x e P) :
    Agree x (Ind.movingStd p e) (PS.mstd p P) := by
  refine Agree.scan _ _ (p - 1) _ h (fun m hm' => ?_)
  set g := fun m => P.val (P.start + m) with hgd
  set i := P.start + m with hid
  have hm : p ≤ m + 1 := by omega
  obtain ⟨hst, hsum⟩ := std_state g p hp (m + 1)
  simp only [scanSt] at hst hsum
  simp only [scanOut, stdStep]
  obtain ⟨hfull, hat'⟩ := fill_full _ g p m hm hst
  simp only [stdStep] at hfull hsum hat'
  simp only [hfull, if_true, stdOf, arith_sqrt, div_eq, sub_eq, add_eq, arith_sq]
  have hi' : P.start + (p - 1) ≤ i := by omega
  have hw : lastK g p (m + 1) = PS.window p P.val i := by
    rw [lastK_window g p m hm, hgd, ← window_rebase P p i hi', hid, Nat.add_sub_cancel_left]
  have hat : ∀ k, k ∈ List.range p →
      ((scanSt (stdStep p) (RingBuf.new (Ind.zero : ℝ) p, (Ind.zero : ℝ)) g m).1.put (g m)).1.atIdx k = P.val (i + 1 - p + k) := by
    intro k hk
    rw [hat' k (List.mem_range.mp hk)]
    simp only [hgd]
    congr 1; omega
  rw [hsum, hw, Sig.sumL_eq_sum, Sig.sumL_eq_sum]
  rw [List.foldl_ext _ (fun s k => s + (P.val (i + 1 - p + k) - (PS.window p P.val i).sum / (Arith.nat p : ℝ)) *
      (P.val (i + 1 - p + k) - (PS.window p P.val i).sum / (Arith.nat p : ℝ))) _ (fun s k hk => by rw [hat k hk])]
  rw [foldl_add_eq_sum]
  have z0 : (Ind.zero : ℝ) = 0 := by simp [Ind.zero]
  rw [z0, zero_add]
  congr 2
  simp only [PS.window, List.map_map]
  rfl

end Sig

namespace Sig
open Ind ArithReal
/-- helper.Count(1, c): 1, 2, 3, … — one value per element of `c` -/
theorem Agree.countOne {x : Nat → Nat → ℝ} {e : Sig ℝ} {P : PS ℝ} (h : Agree x e P) :
    Agree x (Ind.count Ind.one e) ⟨P.start, fun i => ((i - P.start + 1 : ℕ) : ℝ)⟩ := by
  have hoff := h.offD
  constructor
  · simp [Ind.count, off, h.1]
  · intro i hi
    simp only [Ind.count, den, hoff, scanOut]
    have key : ∀ m, scanSt (fun (i : ℝ) (_ : ℝ) => (i + Ind.one, i)) Ind.one (fun m => den x e (P.start + m)) m = ((m + 1 : ℕ) : ℝ) := by
      intro m
      induction m with
      | zero => simp [scanSt, Ind.one]
      | succ m ih => simp only [scanSt, ih]; simp [Ind.one]
    rw [key]
end Sig

namespace Ind
theorem halfRound_pos (p : Nat) (hp : 1 ≤ p) : 1 ≤ halfRound p := by unfold halfRound; omega
theorem halfRound_le (p : Nat) (hp : 1 ≤ p) : halfRound p ≤ p := by unfold halfRound; omega
theorem roundSqrt_pos (p : Nat) (hp : 1 ≤ p) : 1 ≤ roundSqrt p := by
  unfold roundSqrt
  cases h : (List.range (p + 2)).find? (fun r => 4 * p < (2 * r + 1) * (2 * r + 1)) with
  | none =>
    have := List.find?_eq_none.mp h (p + 1) (List.mem_range.mpr (by omega))
    simp only [decide_eq_true_eq, not_lt] at this
    nlinarith
  | some r =>
    have hr := List.find?_some h
    simp only [decide_eq_true_eq] at hr
    simp only [Option.getD_some]
    by_contra h0
    have : r = 0 := by omega
    subst this; omega
end Ind
