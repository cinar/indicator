import IndicatorVerif.Proofs.Bst
import IndicatorVerif.Model.Prims
/-
  The sliding search tree of MovingMax / MovingMin for ANY linearly ordered element type whose `Arith` comparisons are
  the order's: the tree holds exactly the window, so its maximum / minimum is the window's
  (instantiated at ℝ in Proofs/ExtremaReal.lean and at ℤ in Props/C01Int.lean).
-/
set_option linter.unusedSectionVars false
namespace SigG
open Sig Ind
variable {α : Type} [Arith α] [LinearOrder α] (hlaw : Bst.Lawful (Ind.cmpA : Cmp α))

/-- the window of `p` values ending at position `i` -/
def windowG (p : Nat) (f : Nat → α) (i : Nat) : List α := (List.range p).map (fun j => f (i + 1 - p + j))

/-- the last `min m p` values before position `m`, oldest first -/
def lastK (g : Nat → α) (p m : Nat) : List α := (List.range (min m p)).map (fun j => g (m - min m p + j))

theorem lastK_length (g : Nat → α) (p m : Nat) : (lastK g p m).length = min m p := by simp [lastK]

theorem lastK_eq_range' (g : Nat → α) (p m : Nat) : lastK g p m = (List.range' (m - p) (min m p)).map g := by
  have e : m - min m p = m - p := by omega
  simp [lastK, e, List.range'_eq_map_range]

/-- one step: the new value is appended, and the oldest one leaves once `p` values are held -/
theorem lastK_succ (g : Nat → α) (p m : Nat) (hp : 1 ≤ p) :
    lastK g p (m + 1) = (if m < p then lastK g p m else (lastK g p m).tail) ++ [g m] := by
  simp only [lastK_eq_range']
  by_cases h : m < p
  · have e1 : min m p = m := by omega
    have e2 : min (m + 1) p = m + 1 := by omega
    have e3 : m + 1 - p = 0 := by omega
    have e4 : m - p = 0 := by omega
    simp [h, e1, e2, e3, e4, List.range'_concat]
  · obtain ⟨q, rfl⟩ : ∃ q, p = q + 1 := ⟨p - 1, by omega⟩
    have e1 : min m (q + 1) = q + 1 := by omega
    have e2 : min (m + 1) (q + 1) = q + 1 := by omega
    have e3 : m + 1 - (q + 1) = m - (q + 1) + 1 := by omega
    have e4 : m - (q + 1) + 1 + q = m := by omega
    simp only [h, if_false, e1, e2, e3]
    conv_lhs => rw [List.range'_concat]
    conv_rhs => rw [List.range'_succ]
    simp [e4]

theorem lastK_head (g : Nat → α) (p m : Nat) (hp : 1 ≤ p) (h : p ≤ m) : (lastK g p m).head? = some (g (m - p)) := by
  obtain ⟨q, rfl⟩ : ∃ q, p = q + 1 := ⟨p - 1, by omega⟩
  have e1 : min m (q + 1) = q + 1 := by omega
  simp [lastK_eq_range', e1, List.range'_succ]

/-- a full window ending at position `m` -/
theorem lastK_window (g : Nat → α) (p m : Nat) (h : p ≤ m + 1) : lastK g p (m + 1) = windowG p g m := by
  have e1 : min (m + 1) p = p := by omega
  simp only [lastK, e1, windowG]

include hlaw in
/-- state of the sliding tree before consuming element `m`: ordered, holds exactly the last `min m p` values -/
theorem ext_state (pick : BTree α → α) (g : Nat → α) (p : Nat) (hp : 1 ≤ p) (m : Nat) :
    Bst.Ordered (scanSt2 (bstStep pick p) (.nil, 0) g (fun k => if k < p then zero else g (k - p)) m).1 ∧
    (scanSt2 (bstStep pick p) (.nil, 0) g (fun k => if k < p then zero else g (k - p)) m).1.toList.Perm (lastK g p m) ∧
    (scanSt2 (bstStep pick p) (.nil, 0) g (fun k => if k < p then zero else g (k - p)) m).2 = min m p := by
  induction m with
  | zero => simp [scanSt2, Bst.Ordered, BTree.toList, lastK]
  | succ m ih =>
    obtain ⟨ho, hperm, hcnt⟩ := ih
    simp only [scanSt2, bstStep]
    set st := scanSt2 (bstStep pick p) (.nil, 0) g (fun k => if k < p then zero else g (k - p)) m with hst
    have hio := Bst.insert_ordered cmpA hlaw (g m) st.1 ho
    have hip : (Bst.insert cmpA (g m) st.1).toList.Perm (lastK g p m ++ [g m]) :=
      ((Bst.insert_perm _ _ _).trans (hperm.cons _)).trans (List.perm_append_singleton _ _).symm
    rw [lastK_succ g p m hp]
    by_cases hlt : m < p
    · have hc : st.2 < p := by rw [hcnt]; omega
      simp only [hc, hlt, if_true]
      exact ⟨hio, hip, by omega⟩
    · have hc : ¬ st.2 < p := by rw [hcnt]; omega
      simp only [hc, hlt, if_false]
      refine ⟨Bst.remove_ordered cmpA _ _ hio, ?_, by rw [hcnt]; omega⟩
      -- the value removed, `g (m - p)`, is the head of `lastK g p m`
      obtain ⟨tl, hl⟩ := List.head?_eq_some_iff.mp (lastK_head g p m hp (by omega))
      have := (Bst.remove_spec cmpA hlaw (g (m - p)) _ hio).2.trans (hip.erase _)
      rw [hl] at this ⊢
      rwa [List.cons_append, List.erase_cons_head] at this

/-- the value emitted at step `m` is `pick` of the tree after step `m` -/
theorem scanOut2_bstStep (pick : BTree α → α) (p : Nat) (s0 : BTree α × Nat) (g h : Nat → α) (m : Nat) :
    scanOut2 (bstStep pick p) s0 g h m = pick (scanSt2 (bstStep pick p) s0 g h (m + 1)).1 := by
  simp only [scanOut2, scanSt2, bstStep]

theorem windowG_ne_nil (g : Nat → α) (p : Nat) (hp : 1 ≤ p) (m : Nat) : windowG p g m ≠ [] := by
  intro e
  have := congrArg List.length e
  simp [windowG] at this; omega

include hlaw in
/-- MovingMax at step `m ≥ p − 1`: a greatest element of the window ending at `m` -/
theorem ext_out_max (g : Nat → α) (p : Nat) (hp : 1 ≤ p) (m : Nat) (hm : p ≤ m + 1) :
    scanOut2 (bstStep (Bst.maxD zero) p) (.nil, 0) g (fun k => if k < p then zero else g (k - p)) m ∈ windowG p g m ∧
    ∀ y ∈ windowG p g m,
      y ≤ scanOut2 (bstStep (Bst.maxD zero) p) (.nil, 0) g (fun k => if k < p then zero else g (k - p)) m := by
  obtain ⟨ho, hperm, _⟩ := ext_state hlaw (Bst.maxD zero) g p hp (m + 1)
  rw [lastK_window g p m hm] at hperm
  obtain ⟨h1, h2⟩ := Bst.maxD_greatest zero _ ho (fun e => windowG_ne_nil g p hp m (hperm.symm.trans (by rw [e])).eq_nil)
  rw [scanOut2_bstStep]
  exact ⟨hperm.mem_iff.mp h1, fun y hy => h2 y (hperm.mem_iff.mpr hy)⟩

include hlaw in
/-- MovingMin at step `m ≥ p − 1`: a least element of the window ending at `m` -/
theorem ext_out_min (g : Nat → α) (p : Nat) (hp : 1 ≤ p) (m : Nat) (hm : p ≤ m + 1) :
    scanOut2 (bstStep (Bst.minD zero) p) (.nil, 0) g (fun k => if k < p then zero else g (k - p)) m ∈ windowG p g m ∧
    ∀ y ∈ windowG p g m,
      scanOut2 (bstStep (Bst.minD zero) p) (.nil, 0) g (fun k => if k < p then zero else g (k - p)) m ≤ y := by
  obtain ⟨ho, hperm, _⟩ := ext_state hlaw (Bst.minD zero) g p hp (m + 1)
  rw [lastK_window g p m hm] at hperm
  obtain ⟨h1, h2⟩ := Bst.minD_least zero _ ho (fun e => windowG_ne_nil g p hp m (hperm.symm.trans (by rw [e])).eq_nil)
  rw [scanOut2_bstStep]
  exact ⟨hperm.mem_iff.mp h1, fun y hy => h2 y (hperm.mem_iff.mpr hy)⟩

end SigG
