import IndicatorVerif.Proofs.AgreeReal
import IndicatorVerif.Proofs.RangeReal
import IndicatorVerif.Proofs.ExtremaGen
/-
  MovingMax / MovingMin: the sliding search tree of the Go code (insert the new value, remove the value that
  left the window once `period` values are in) yields the maximum / minimum of the window.
-/
noncomputable section
namespace Sig
open Ind ArithReal PS

theorem cmpA_lawful : Bst.Lawful (Ind.cmpA : Cmp ℝ) :=
  ⟨fun a b => by simp [Ind.cmpA], fun a b => by simp [Ind.cmpA], fun a b => by simp [Ind.cmpA]⟩

/-- the last `min m p` values before position `m`, oldest first -/
def lastK (g : Nat → ℝ) (p m : Nat) : List ℝ := (List.range (min m p)).map (fun j => g (m - min m p + j))

theorem lastK_eq (g : Nat → ℝ) (p m : Nat) : lastK g p m = SigG.lastK g p m := rfl

/-- state of the sliding tree before consuming element `m`: ordered, holds exactly the last `min m p` values -/
theorem ext_state (pick : BTree ℝ → ℝ) (g : Nat → ℝ) (p : Nat) (hp : 1 ≤ p) (m : Nat) :
    Bst.Ordered (scanSt2 (bstStep pick p) (.nil, 0) g (fun k => if k < p then 0 else g (k - p)) m).1 ∧
    (scanSt2 (bstStep pick p) (.nil, 0) g (fun k => if k < p then 0 else g (k - p)) m).1.toList.Perm (lastK g p m) ∧
    (scanSt2 (bstStep pick p) (.nil, 0) g (fun k => if k < p then 0 else g (k - p)) m).2 = min m p := by
  simpa [zero, lastK_eq] using SigG.ext_state cmpA_lawful pick g p hp m

/-- output of the sliding tree at step `m ≥ p − 1`: the extremum of the window ending at `m` -/
theorem ext_out_max (g : Nat → ℝ) (p : Nat) (hp : 1 ≤ p) (m : Nat) (hm : p ≤ m + 1) :
    scanOut2 (bstStep (Bst.maxD (zero : ℝ)) p) (.nil, 0) g (fun k => if k < p then zero else g (k - p)) m
      = PS.maxL (PS.window p g m) := by
  obtain ⟨h1, h2⟩ := SigG.ext_out_max cmpA_lawful g p hp m hm
  exact le_antisymm (PS.le_maxL _ _ h1) (h2 _ (PS.maxL_mem _ (PS.window_ne_nil p hp g m)))

theorem ext_out_min (g : Nat → ℝ) (p : Nat) (hp : 1 ≤ p) (m : Nat) (hm : p ≤ m + 1) :
    scanOut2 (bstStep (Bst.minD (zero : ℝ)) p) (.nil, 0) g (fun k => if k < p then zero else g (k - p)) m
      = PS.minL (PS.window p g m) := by
  obtain ⟨h1, h2⟩ := SigG.ext_out_min cmpA_lawful g p hp m hm
  exact le_antisymm (h2 _ (PS.minL_mem _ (PS.window_ne_nil p hp g m))) (PS.minL_le _ _ h1)

theorem window_rebase (P : PS ℝ) (p i : Nat) (hi : P.start + (p - 1) ≤ i) :
    PS.window p (fun m => P.val (P.start + m)) (i - P.start) = PS.window p P.val i := by
  simp only [PS.window]
  apply List.map_congr_left
  intro j hj
  have := List.mem_range.mp hj
  congr 1; omega

theorem Agree.movingMax {x : Nat → Nat → ℝ} {e : Sig ℝ} {P : PS ℝ} (p : Nat) (hp : 1 ≤ p) (h : Agree x e P) :
    Agree x (Ind.movingMax p e) (PS.mmax p P) :=
  Agree.scanDelay _ _ p zero (p - 1) _ h fun m hm => by
    rw [ext_out_max _ p hp m (by omega), ← window_rebase P p (P.start + m) (by omega), Nat.add_sub_cancel_left]

theorem Agree.movingMin {x : Nat → Nat → ℝ} {e : Sig ℝ} {P : PS ℝ} (p : Nat) (hp : 1 ≤ p) (h : Agree x e P) :
    Agree x (Ind.movingMin p e) (PS.mmin p P) :=
  Agree.scanDelay _ _ p zero (p - 1) _ h fun m hm => by
    rw [ext_out_min _ p hp m (by omega), ← window_rebase P p (P.start + m) (by omega), Nat.add_sub_cancel_left]

end Sig
