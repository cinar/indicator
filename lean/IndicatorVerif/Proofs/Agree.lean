import IndicatorVerif.Proofs.Aligned
import IndicatorVerif.Spec.Formulas
/-
  `Agree x e P`: the model term `e` is aligned at `P.start` and, from there on, carries exactly the
  values of the positional formula `P`.  Generic (structural) rules; core-only.
-/
namespace Sig
variable {α : Type}

structure Agree (x : Nat → Nat → α) (e : Sig α) (P : PS α) : Prop where
  off_eq : off e = some P.start
  val_eq : ∀ i, P.start ≤ i → den x e i = P.val i

theorem Agree.cast {x : Nat → Nat → α} {e : Sig α} {P Q : PS α} (h : Agree x e P)
    (hs : P.start = Q.start) (hv : ∀ i, P.start ≤ i → P.val i = Q.val i) : Agree x e Q :=
  ⟨by rw [← hs]; exact h.1, fun i hi => by rw [h.2 i (by omega), hv i (by omega)]⟩

theorem Agree.offD {x : Nat → Nat → α} {e : Sig α} {P : PS α} (h : Agree x e P) : offD e = P.start := by
  simp [Sig.offD, h.1]

/-- the stream an aligned term feeds to a stateful step, re-based at its start -/
theorem Agree.den_shift {x : Nat → Nat → α} {e : Sig α} {P : PS α} (h : Agree x e P) :
    (fun m => den x e (P.start + m)) = fun m => P.val (P.start + m) :=
  funext fun m => h.2 _ (by omega)

/-- the rule for a stateful step (`scan`, then `skip` of the idle outputs): it is enough to compute the step's outputs
    on the argument's formula re-based at its start -/
theorem Agree.scan {σ : Type} {x : Nat → Nat → α} {e : Sig α} {P : PS α} (s0 : σ) (step : σ → α → σ × α)
    (k : Nat) (v : Nat → α) (h : Agree x e P)
    (hv : ∀ m, k ≤ m → scanOut step s0 (fun j => P.val (P.start + j)) m = v (P.start + m)) :
    Agree x (skip k (scan σ s0 step e)) ⟨P.start + k, v⟩ :=
  ⟨by simp [off, h.1], fun i hi => by
    simp only at hi
    simp only [den, h.offD, h.den_shift]
    rw [hv (i - P.start) (by omega)]
    congr 1; omega⟩

/-- the same for a step that also reads its input `p` positions back (`delay`, filled with `fill` at the start) -/
theorem Agree.scanDelay {σ : Type} {x : Nat → Nat → α} {e : Sig α} {P : PS α} (s0 : σ) (step : σ → α → α → σ × α)
    (p : Nat) (fill : α) (k : Nat) (v : Nat → α) (h : Agree x e P)
    (hv : ∀ m, k ≤ m → scanOut2 step s0 (fun j => P.val (P.start + j))
      (fun j => if j < p then fill else P.val (P.start + (j - p))) m = v (P.start + m)) :
    Agree x (skip k (scan2 σ s0 step e (delay p fill e))) ⟨P.start + k, v⟩ := by
  have hd : (fun m => if P.start + m < P.start + p then fill else den x e (P.start + m - p))
      = fun j => if j < p then fill else P.val (P.start + (j - p)) := by
    funext m
    by_cases hm : m < p
    · rw [if_pos (by omega), if_pos hm]
    · rw [if_neg (by omega), if_neg hm, show P.start + m - p = P.start + (m - p) by omega]
      exact h.2 _ (by omega)
  refine ⟨by simp [off, h.1, join2], fun i hi => ?_⟩
  simp only at hi
  simp only [den, h.offD]
  rw [h.den_shift, hd, hv (i - P.start) (by omega)]
  congr 1; omega

theorem Agree.input (x : Nat → Nat → α) (j : Nat) : Agree x (input j) ⟨0, x j⟩ :=
  ⟨rfl, fun _ _ => rfl⟩

theorem Agree.map {x : Nat → Nat → α} {e : Sig α} {P : PS α} (f : α → α) (h : Agree x e P) :
    Agree x (map f e) ⟨P.start, fun i => f (P.val i)⟩ :=
  ⟨h.1, fun i hi => by simp only [den]; rw [h.2 i hi]⟩

theorem Agree.zip {x : Nat → Nat → α} {a b : Sig α} {P Q : PS α} (f : α → α → α)
    (ha : Agree x a P) (hb : Agree x b Q) (hs : P.start = Q.start) :
    Agree x (zip f a b) ⟨P.start, fun i => f (P.val i) (Q.val i)⟩ :=
  ⟨by simp [off, ha.1, hb.1, join2, hs],
   fun i hi => by simp only [den]; rw [ha.2 i hi, hb.2 i (by simp only at hi; omega)]⟩

theorem Agree.zip3 {x : Nat → Nat → α} {a b c : Sig α} {P Q R : PS α} (f : α → α → α → α)
    (ha : Agree x a P) (hb : Agree x b Q) (hc : Agree x c R) (h1 : P.start = Q.start) (h2 : P.start = R.start) :
    Agree x (zip3 f a b c) ⟨P.start, fun i => f (P.val i) (Q.val i) (R.val i)⟩ :=
  ⟨by simp [off, ha.1, hb.1, hc.1, join2, ← h1, ← h2],
   fun i hi => by
     simp only [den]
     rw [ha.2 i hi, hb.2 i (by simp only at hi; omega), hc.2 i (by simp only at hi; omega)]⟩

theorem Agree.skip {x : Nat → Nat → α} {e : Sig α} {P : PS α} (k : Nat) (h : Agree x e P) :
    Agree x (skip k e) ⟨P.start + k, P.val⟩ :=
  ⟨by simp [off, h.1], fun i hi => by simp only [den]; exact h.2 i (by simp only at hi; omega)⟩

theorem Agree.lag {x : Nat → Nat → α} {e : Sig α} {P : PS α} (k : Nat) (h : Agree x e P) :
    Agree x (lag k e) ⟨P.start + k, fun i => P.val (i - k)⟩ :=
  ⟨by simp [off, h.1], fun i hi => by simp only [den]; exact h.2 (i - k) (by simp only at hi; omega)⟩

/-! The same joins with the formula's own combinator in the conclusion.  A formula joins at the later of two starts
(`PS.map2`); the model `skip`s the earlier operand up to it, so each rule asks for the one fact that the skip bridges
the two starts.  A term built from these rules has the formula itself as its type: no `cast` at the end. -/

theorem Agree.map2 {x : Nat → Nat → α} {a b : Sig α} {P Q : PS α} (f : α → α → α)
    (ha : Agree x a P) (hb : Agree x b Q) (hs : P.start = Q.start) : Agree x (Sig.zip f a b) (PS.map2 f P Q) :=
  (ha.zip f hb hs).cast (by simp [PS.map2, hs]) (fun _ _ => rfl)

theorem Agree.map2L {x : Nat → Nat → α} {a b : Sig α} {P Q : PS α} {k : Nat} (f : α → α → α)
    (ha : Agree x a P) (hb : Agree x b Q) (hs : P.start + k = Q.start) :
    Agree x (Sig.zip f (Sig.skip k a) b) (PS.map2 f P Q) :=
  ((ha.skip k).zip f hb hs).cast (by simp only [PS.map2, Nat.max_def]; split <;> omega) (fun _ _ => rfl)

theorem Agree.map2R {x : Nat → Nat → α} {a b : Sig α} {P Q : PS α} {k : Nat} (f : α → α → α)
    (ha : Agree x a P) (hb : Agree x b Q) (hs : P.start = Q.start + k) :
    Agree x (Sig.zip f a (Sig.skip k b)) (PS.map2 f P Q) :=
  (ha.zip f (hb.skip k) hs).cast (by simp only [PS.map2, Nat.max_def]; split <;> omega) (fun _ _ => rfl)

/-- an output the model skips to where a sibling output starts (`PS.from_`) -/
theorem Agree.from_ {x : Nat → Nat → α} {e : Sig α} {P : PS α} {k s : Nat} (h : Agree x e P)
    (hs : P.start + k = s) : Agree x (Sig.skip k e) (PS.from_ s P) :=
  (h.skip k).cast (by simp only [PS.from_, Nat.max_def]; split <;> omega) (fun _ _ => rfl)

/-- the list the Go code must emit: from `Agree` and `Good`, for every input length -/
theorem Agree.evalL_eq {x : Nat → Nat → α} {e : Sig α} {P : PS α} {A : Nat} (h : Agree x e P)
    (hg : Good e P.start A) (n : Nat) : evalL (envOf x A n) e = P.toList n := by
  rw [sound x A n e P.start h.1 (by rw [hg.2]; omega) hg.3]
  simp only [toList, PS.toList]
  apply List.map_congr_left
  intro k _
  exact h.2 _ (by omega)

end Sig
