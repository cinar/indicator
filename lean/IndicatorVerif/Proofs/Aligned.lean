import IndicatorVerif.Proofs.SigCausal
import IndicatorVerif.Model.Registry
import IndicatorVerif.Proofs.SimpAttr
/-
  `Good e w A`: the term `e` is well aligned at offset `w`, contains no re-anchoring shift that
  could bite on short inputs, and mentions inputs `< A` only.  Intro rules + a tactic that derives
  `Good` for an indicator body, leaving linear-arithmetic side goals about the periods to `omega`.
  Core-only.
-/
namespace Sig
variable {α : Type}

structure Good (e : Sig α) (w A : Nat) : Prop where
  intro ::
  off_eq : off e = some w
  need_eq : need e = 0
  arity_le : arity e ≤ A

theorem Good.cast {e : Sig α} {w w' A : Nat} (h : Good e w A) (hw : w = w') : Good e w' A := by
  subst hw; exact h

theorem Good.input (j A : Nat) (h : j < A) : Good (input j : Sig α) 0 A := ⟨rfl, rfl, h⟩

theorem Good.map {e : Sig α} {w A : Nat} (f : α → α) (h : Good e w A) : Good (map f e) w A := ⟨h.1, h.2, h.3⟩

theorem Good.zip {a b : Sig α} {wa wb A : Nat} (f : α → α → α) (ha : Good a wa A) (hb : Good b wb A)
    (h1 : wa = wb) : Good (zip f a b) wa A := by
  subst h1
  obtain ⟨a1, a2, a3⟩ := ha; obtain ⟨b1, b2, b3⟩ := hb
  refine ⟨by simp [off, a1, b1, join2], by simp [need, a2, b2], ?_⟩
  simp only [arity, Nat.max_def]; split <;> omega

theorem Good.zip3 {a b c : Sig α} {wa wb wc A : Nat} (f : α → α → α → α)
    (ha : Good a wa A) (hb : Good b wb A) (hc : Good c wc A)
    (h1 : wa = wb) (h2 : wa = wc) : Good (zip3 f a b c) wa A := by
  subst h1; subst h2
  obtain ⟨a1, a2, a3⟩ := ha; obtain ⟨b1, b2, b3⟩ := hb; obtain ⟨c1, c2, c3⟩ := hc
  refine ⟨by simp [off, a1, b1, c1, join2], by simp [need, a2, b2, c2], ?_⟩
  simp only [arity, Nat.max_def]; split <;> split <;> omega

theorem Good.skip {e : Sig α} {w0 A : Nat} (k : Nat) (h : Good e w0 A) : Good (skip k e) (w0 + k) A := by
  obtain ⟨a1, a2, a3⟩ := h
  exact ⟨by simp [off, a1], by simp [need, a2], by simpa [arity] using a3⟩

theorem Good.lag {e : Sig α} {w0 A : Nat} (k : Nat) (h : Good e w0 A) : Good (lag k e) (w0 + k) A := by
  obtain ⟨a1, a2, a3⟩ := h
  exact ⟨by simp [off, a1], by simp [need, a2], by simpa [arity] using a3⟩

theorem Good.delay {e : Sig α} {w A : Nat} (k : Nat) (fill : α) (h : Good e w A) :
    Good (delay k fill e) w A := ⟨h.1, h.2, h.3⟩

theorem Good.scan {e : Sig α} {w A : Nat} (σ : Type) (s0 : σ) (step : σ → α → σ × α) (h : Good e w A) :
    Good (scan σ s0 step e) w A := ⟨h.1, h.2, h.3⟩

theorem Good.scan2 {a b : Sig α} {wa wb A : Nat} (σ : Type) (s0 : σ) (step : σ → α → α → σ × α)
    (ha : Good a wa A) (hb : Good b wb A) (h1 : wa = wb) : Good (scan2 σ s0 step a b) wa A := by
  subst h1
  obtain ⟨a1, a2, a3⟩ := ha; obtain ⟨b1, b2, b3⟩ := hb
  refine ⟨by simp [off, a1, b1, join2], by simp [need, a2, b2], ?_⟩
  simp only [arity, Nat.max_def]; split <;> omega

theorem Good.scan3 {a b c : Sig α} {wa wb wc A : Nat} (σ : Type) (s0 : σ) (step : σ → α → α → α → σ × α)
    (ha : Good a wa A) (hb : Good b wb A) (hc : Good c wc A)
    (h1 : wa = wb) (h2 : wa = wc) : Good (scan3 σ s0 step a b c) wa A := by
  subst h1; subst h2
  obtain ⟨a1, a2, a3⟩ := ha; obtain ⟨b1, b2, b3⟩ := hb; obtain ⟨c1, c2, c3⟩ := hc
  refine ⟨by simp [off, a1, b1, c1, join2], by simp [need, a2, b2, c2], ?_⟩
  simp only [arity, Nat.max_def]; split <;> split <;> omega

theorem Good.recur {e : Sig α} {w0 A : Nat} (p : Nat) (seed : List α → α) (upd : α → α → α)
    (h : Good e w0 A) (hp : 1 ≤ p) : Good (recur p seed upd e) (w0 + (p - 1)) A := by
  obtain ⟨a1, a2, a3⟩ := h
  have : p ≠ 0 := by omega
  exact ⟨by simp [off, a1, this], by simp [need, a2], by simpa [arity] using a3⟩

/-! ### `Good` by rewriting: what it takes for a term to be `Good` at a *given* offset, constructor by
constructor and primitive by primitive.  Rewriting with these (the offset flows from the root to the inputs)
turns `Good e w A` into a conjunction of linear facts about the periods, which `omega` decides. -/

theorem good_iff {e : Sig α} {w A : Nat} : Good e w A ↔ off e = some w ∧ need e = 0 ∧ arity e ≤ A :=
  ⟨fun h => ⟨h.1, h.2, h.3⟩, fun h => ⟨h.1, h.2.1, h.2.2⟩⟩

theorem join2_eq_some {a b : Option Nat} {w : Nat} : join2 a b = some w ↔ a = some w ∧ b = some w := by
  refine ⟨join2_some, fun h => ?_⟩
  simp [join2, h.1, h.2]

theorem map_add_eq_some {o : Option Nat} {k w : Nat} : o.map (· + k) = some w ↔ k ≤ w ∧ o = some (w - k) := by
  cases o <;> simp <;> omega

@[good] theorem good_input {j w A : Nat} : Good (input j : Sig α) w A ↔ w = 0 ∧ j < A := by
  simp [good_iff, off, need, arity]; omega
@[good] theorem good_map {f : α → α} {e : Sig α} {w A : Nat} : Good (map f e) w A ↔ Good e w A := by
  simp [good_iff, off, need, arity]
@[good] theorem good_delay {k : Nat} {fill : α} {e : Sig α} {w A : Nat} : Good (delay k fill e) w A ↔ Good e w A := by
  simp [good_iff, off, need, arity]
@[good] theorem good_scan {σ : Type} {s0 : σ} {step : σ → α → σ × α} {e : Sig α} {w A : Nat} :
    Good (scan σ s0 step e) w A ↔ Good e w A := by
  simp [good_iff, off, need, arity]
@[good] theorem good_skip {k : Nat} {e : Sig α} {w A : Nat} : Good (skip k e) w A ↔ k ≤ w ∧ Good e (w - k) A := by
  simp only [good_iff, off, need, arity, map_add_eq_some, and_assoc]
@[good] theorem good_lag {k : Nat} {e : Sig α} {w A : Nat} : Good (lag k e) w A ↔ k ≤ w ∧ Good e (w - k) A := by
  simp only [good_iff, off, need, arity, map_add_eq_some, and_assoc]
theorem max_eq_zero {a b : Nat} : Nat.max a b = 0 ↔ a = 0 ∧ b = 0 := by
  simp only [Nat.max_def]; split <;> omega

theorem max_le_iff {a b c : Nat} : Nat.max a b ≤ c ↔ a ≤ c ∧ b ≤ c := by
  simp only [Nat.max_def]; split <;> omega

@[good] theorem good_zip {f : α → α → α} {a b : Sig α} {w A : Nat} : Good (zip f a b) w A ↔ Good a w A ∧ Good b w A := by
  simp only [good_iff, off, need, arity, join2_eq_some, max_eq_zero, max_le_iff]; apply Iff.of_eq; ac_rfl

@[good] theorem good_scan2 {σ : Type} {s0 : σ} {step : σ → α → α → σ × α} {a b : Sig α} {w A : Nat} :
    Good (scan2 σ s0 step a b) w A ↔ Good a w A ∧ Good b w A := by
  simp only [good_iff, off, need, arity, join2_eq_some, max_eq_zero, max_le_iff]; apply Iff.of_eq; ac_rfl

theorem good_recur {p : Nat} {seed : List α → α} {upd : α → α → α} {e : Sig α} {w A : Nat} :
    Good (recur p seed upd e) w A ↔ 1 ≤ p ∧ p - 1 ≤ w ∧ Good e (w - (p - 1)) A := by
  simp only [good_iff, off, need, arity]
  by_cases hp : p = 0
  · simp [hp]
  · simp only [hp, if_false, map_add_eq_some, and_assoc]; constructor <;> intro h <;> refine ⟨?_, ?_⟩ <;> first | omega | exact h.2 | exact h.2.2
@[good] theorem good_zip3 {f : α → α → α → α} {a b c : Sig α} {w A : Nat} :
    Good (zip3 f a b c) w A ↔ Good a w A ∧ Good b w A ∧ Good c w A := by
  simp only [good_iff, off, need, arity, join2_eq_some, max_eq_zero, max_le_iff]; apply Iff.of_eq; ac_rfl

@[good] theorem good_scan3 {σ : Type} {s0 : σ} {step : σ → α → α → α → σ × α} {a b c : Sig α} {w A : Nat} :
    Good (scan3 σ s0 step a b c) w A ↔ Good a w A ∧ Good b w A ∧ Good c w A := by
  simp only [good_iff, off, need, arity, join2_eq_some, max_eq_zero, max_le_iff]; apply Iff.of_eq; ac_rfl

section prims
open Ind
variable [Arith α] {e : Sig α} {w A p : Nat}
@[good] theorem good_movingSum : Good (Ind.movingSum p e) w A ↔ p - 1 ≤ w ∧ Good e (w - (p - 1)) A := by
  simp only [Ind.movingSum, good_skip, good_scan2, good_delay, and_self]
@[good] theorem good_movingMax : Good (Ind.movingMax p e) w A ↔ p - 1 ≤ w ∧ Good e (w - (p - 1)) A := by
  simp only [Ind.movingMax, good_skip, good_scan2, good_delay, and_self]
@[good] theorem good_movingMin : Good (Ind.movingMin p e) w A ↔ p - 1 ≤ w ∧ Good e (w - (p - 1)) A := by
  simp only [Ind.movingMin, good_skip, good_scan2, good_delay, and_self]
@[good] theorem good_sma : Good (Ind.sma p e) w A ↔ p - 1 ≤ w ∧ Good e (w - (p - 1)) A := by
  simp only [Ind.sma, good_map, good_movingSum]
@[good] theorem good_wma : Good (Ind.wma p e) w A ↔ p - 1 ≤ w ∧ Good e (w - (p - 1)) A := by
  simp only [Ind.wma, good_skip, good_scan]
@[good] theorem good_movingStd : Good (Ind.movingStd p e) w A ↔ p - 1 ≤ w ∧ Good e (w - (p - 1)) A := by
  simp only [Ind.movingStd, good_skip, good_scan]
@[good] theorem good_since : Good (Ind.since e) w A ↔ Good e w A := good_scan
@[good] theorem good_count {c : α} : Good (Ind.count c e) w A ↔ Good e w A := good_scan
@[good] theorem good_cumSum : Good (Ind.cumSum e) w A ↔ Good e w A := good_scan
@[good] theorem good_ema {sm : α} : Good (Ind.ema p sm e) w A ↔ 1 ≤ p ∧ p - 1 ≤ w ∧ Good e (w - (p - 1)) A := good_recur
@[good] theorem good_rma : Good (Ind.rma p e) w A ↔ 1 ≤ p ∧ p - 1 ≤ w ∧ Good e (w - (p - 1)) A := good_recur
@[good] theorem good_smma : Good (Ind.smma p e) w A ↔ 1 ≤ p ∧ p - 1 ≤ w ∧ Good e (w - (p - 1)) A := good_recur
/-- the half-period WMA is skipped up to the full-period one: needs only `halfRound p - 1 ≤ p - 1` -/
@[good] theorem good_hma : Good (Ind.hma p e) w A ↔
    (p - 1) + (roundSqrt p - 1) ≤ w ∧ Good e (w - ((p - 1) + (roundSqrt p - 1))) A := by
  have hh : halfRound p - 1 ≤ p - 1 := by unfold halfRound; omega
  simp only [Ind.hma, Ind.sub, Ind.mulBy, good_wma, good_zip, good_map, good_skip]
  generalize halfRound p = h at hh
  generalize roundSqrt p = r
  have e1 : (p - 1) + (r - 1) ≤ w → w - (r - 1) - ((p - 1) - (h - 1)) - (h - 1) = w - ((p - 1) + (r - 1)) := by omega
  have e2 : w - (r - 1) - (p - 1) = w - ((p - 1) + (r - 1)) := by omega
  constructor
  · rintro ⟨_, _, _, h6⟩
    exact ⟨by omega, e2 ▸ h6⟩
  · rintro ⟨h1, h2⟩
    rw [e1 h1, e2]
    exact ⟨by omega, ⟨by omega, by omega, h2⟩, by omega, h2⟩

theorem le_maIdle (k p : Nat) : p - 1 ≤ maIdle (maOf k p) := by
  unfold maOf; split <;> simp only [maIdle] <;> omega

/-- every moving average selectable by a kind code, at its `maIdle` -/
theorem good_maApply {k : Nat} (hp : 1 ≤ p) : Good (Ind.maApply (maOf k p) e) w A ↔
    maIdle (maOf k p) ≤ w ∧ Good e (w - maIdle (maOf k p)) A := by
  unfold maOf
  split <;> simp only [Ind.maApply, maIdle, good_sma, good_ema, good_smma, good_wma, good_hma, hp, true_and]

end prims

attribute [ind_body] Ind.add Ind.sub Ind.mul Ind.div Ind.mulBy Ind.divBy Ind.incBy Ind.absS Ind.pow2 Ind.powInv Ind.sqrtS
  Ind.keepPos Ind.keepNeg Ind.signS Ind.round0 Ind.change Ind.changeRatio Ind.typicalPrice
  Ind.maApply.eq_1 Ind.maApply.eq_2 Ind.maApply.eq_3 Ind.maApply.eq_4 Ind.maApply.eq_5 Ind.maApply.eq_6
  Ind.maIdle.eq_1 Ind.maIdle.eq_2 Ind.maIdle.eq_3 Ind.maIdle.eq_4 Ind.maIdle.eq_5 Ind.maIdle.eq_6 Ind.atrIdle
  Ind.apo Ind.aroonLine Ind.aroon Ind.bop Ind.cci Ind.dema Ind.envelope Ind.kama Ind.kdj Ind.macd Ind.massIndex Ind.mls
  Ind.mlsM Ind.mlsB Ind.mlr Ind.tema Ind.trix Ind.tsi Ind.vwma Ind.weightedClose Ind.mfm Ind.mfv Ind.ad Ind.cmf Ind.emv
  Ind.fi Ind.mfi Ind.nvi Ind.obv Ind.vpt Ind.vwap Ind.awesomeOscillator Ind.chaikinOscillator Ind.ichimokuCloud Ind.ppo
  Ind.qstick Ind.rsi Ind.stochasticOscillator Ind.stochasticRsi Ind.stochasticRsiG Ind.williamsR Ind.accelerationBands
  Ind.trueRange Ind.atr Ind.bollingerBands Ind.bbUpper Ind.bbLower Ind.bollingerBandWidth Ind.chandelierExit
  Ind.donchianChannel Ind.keltnerChannel Ind.keltnerChannelG Ind.percentB Ind.po Ind.superTrend Ind.ulcerIndex
  Ind.i0 Ind.i1 Ind.i2 Ind.i3 List.getD_cons_zero List.getD_cons_succ List.getD_nil

attribute [good] List.forall_mem_cons List.not_mem_nil false_imp_iff implies_true and_true true_and and_self
  Nat.add_sub_cancel Nat.sub_self Nat.sub_zero Nat.zero_le Nat.le_add_left Nat.le_add_right Nat.le_refl
  Nat.lt_add_one Nat.zero_lt_succ Nat.add_zero Nat.zero_add

/-- consequences of `Good` for every input family and length -/
theorem Good.length {e : Sig α} {w A : Nat} (h : Good e w A) (x : Nat → Nat → α) (n : Nat) :
    (evalL (envOf x A n) e).length = n - w :=
  evalL_length x A n e w h.1 (by rw [h.2]; omega) h.3

theorem Good.kth {e : Sig α} {w A : Nat} (h : Good e w A) (x : Nat → Nat → α) (n k : Nat) (hk : k < n - w) :
    (evalL (envOf x A n) e)[k]? = some (den x e (w + k)) :=
  evalL_kth x A n e w k h.1 (by rw [h.2]; omega) h.3 hk

theorem Good.prefix {e : Sig α} {w A : Nat} (h : Good e w A) (x : Nat → Nat → α) (n m : Nat) (hmn : m ≤ n) :
    evalL (envOf x A m) e = (evalL (envOf x A n) e).take (m - w) :=
  evalL_prefix x A n m e w h.1 (by rw [h.2]; omega) hmn h.3

theorem Good.future_irrelevant {e : Sig α} {w A : Nat} (h : Good e w A) (x y : Nat → Nat → α) (n i : Nat)
    (hw : w ≤ i) (hi : i < n) (H : ∀ j m, m ≤ i → x j m = y j m) :
    (evalL (envOf x A n) e)[i - w]? = (evalL (envOf y A n) e)[i - w]? :=
  evalL_future_irrelevant x y A n e w i h.1 (by rw [h.2]; omega) h.3 hw hi H

end Sig

/-- unfold a body down to the stateful primitives and rewrite `Good` into linear facts about the periods -/
macro "good_simp" : tactic => `(tactic| simp only [ind_body, good])

/-- derive `Good` for a term built from constructors; arithmetic side goals go to `omega` -/
macro "good_tac" : tactic => `(tactic|
  (apply Sig.Good.cast
   (repeat' (first
      | apply Sig.Good.map
      | apply Sig.Good.delay
      | apply Sig.Good.scan
      | apply Sig.Good.input
      | apply Sig.Good.zip
      | apply Sig.Good.zip3
      | apply Sig.Good.skip
      | apply Sig.Good.lag
      | apply Sig.Good.scan2
      | apply Sig.Good.scan3
      | apply Sig.Good.recur))
   all_goals omega))
