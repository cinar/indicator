import IndicatorVerif.Proofs.AgreeReal
import IndicatorVerif.Spec.Indicators
/-
  Order facts about the specification combinators over ℝ: windows, sums, extrema, averages.
-/
noncomputable section
namespace PS
open ArithReal

@[simp] theorem add_val (a b : PS ℝ) (i : Nat) : (a + b).val i = a.val i + b.val i := rfl
@[simp] theorem sub_val (a b : PS ℝ) (i : Nat) : (a - b).val i = a.val i - b.val i := rfl
@[simp] theorem mul_val (a b : PS ℝ) (i : Nat) : (a * b).val i = a.val i * b.val i := rfl
@[simp] theorem div_val (a b : PS ℝ) (i : Nat) : (a / b).val i = a.val i / b.val i := rfl
@[simp] theorem scale_val (k : ℝ) (a : PS ℝ) (i : Nat) : (scale k a).val i = a.val i * k := rfl
@[simp] theorem over_val (k : ℝ) (a : PS ℝ) (i : Nat) : (over k a).val i = a.val i / k := rfl
@[simp] theorem plus_val (k : ℝ) (a : PS ℝ) (i : Nat) : (plus k a).val i = a.val i + k := rfl
@[simp] theorem map_val (f : ℝ → ℝ) (a : PS ℝ) (i : Nat) : (map f a).val i = f (a.val i) := rfl
@[simp] theorem map2_val (f : ℝ → ℝ → ℝ) (a b : PS ℝ) (i : Nat) : (map2 f a b).val i = f (a.val i) (b.val i) := rfl
@[simp] theorem input_val (x : Nat → ℝ) (i : Nat) : (input x).val i = x i := rfl
@[simp] theorem input_fun (x : Nat → ℝ) : (input x).val = x := rfl
@[simp] theorem prev_val (k : Nat) (a : PS ℝ) (i : Nat) : (prev k a).val i = a.val (i - k) := rfl
@[simp] theorem from_val (s : Nat) (a : PS ℝ) (i : Nat) : (from_ s a).val i = a.val i := rfl
@[simp] theorem msum_val (p : Nat) (a : PS ℝ) (i : Nat) : (msum p a).val i = sumL (window p a.val i) := rfl
@[simp] theorem mmax_val (p : Nat) (a : PS ℝ) (i : Nat) : (mmax p a).val i = maxL (window p a.val i) := rfl
@[simp] theorem mmin_val (p : Nat) (a : PS ℝ) (i : Nat) : (mmin p a).val i = minL (window p a.val i) := rfl
theorem sma_val (p : Nat) (a : PS ℝ) (i : Nat) : (sma p a).val i = sumL (window p a.val i) / (p : ℝ) := by
  simp [sma]

theorem window_length (p : Nat) (f : Nat → ℝ) (i : Nat) : (window p f i).length = p := by simp [window]

theorem mem_window {p : Nat} {f : Nat → ℝ} {i : Nat} {v : ℝ} (h : v ∈ window p f i) :
    ∃ j, j < p ∧ v = f (i + 1 - p + j) := by
  simp only [window, List.mem_map, List.mem_range] at h
  obtain ⟨j, hj, rfl⟩ := h; exact ⟨j, hj, rfl⟩

/-- the current value is the last element of its window -/
theorem cur_mem_window (p : Nat) (hp : 1 ≤ p) (f : Nat → ℝ) (i : Nat) (hi : p - 1 ≤ i) : f i ∈ window p f i := by
  simp only [window, List.mem_map, List.mem_range]
  exact ⟨p - 1, by omega, by congr 1; omega⟩

theorem sumL_nonneg (l : List ℝ) (h : ∀ v ∈ l, 0 ≤ v) : 0 ≤ sumL l := by
  rw [Sig.sumL_eq_sum]; exact List.sum_nonneg h

theorem sumL_le_sumL (p : Nat) (f g : Nat → ℝ) (i : Nat) (h : ∀ j, j < p → f (i + 1 - p + j) ≤ g (i + 1 - p + j)) :
    sumL (window p f i) ≤ sumL (window p g i) := by
  rw [Sig.sumL_eq_sum, Sig.sumL_eq_sum]
  simp only [window]
  apply List.sum_le_sum
  intro j hj
  exact h j (List.mem_range.mp hj)

/-- a fold whose step bounds both its arguments in the order `r` (max for `≤`, min for `≥`) bounds its seed and every element -/
theorem foldl_bound (r : ℝ → ℝ → Prop) (hrr : ∀ a, r a a) (hr : ∀ {a b c}, r a b → r b c → r a c) (g : ℝ → ℝ → ℝ)
    (hg : ∀ a b, r a (g a b) ∧ r b (g a b)) (l : List ℝ) (a : ℝ) : r a (l.foldl g a) ∧ ∀ v ∈ l, r v (l.foldl g a) := by
  induction l generalizing a with
  | nil => exact ⟨hrr a, fun _ h => absurd h List.not_mem_nil⟩
  | cons x t ih =>
    obtain ⟨h1, h2⟩ := ih (g a x)
    refine ⟨hr (hg a x).1 h1, fun v hv => ?_⟩
    rcases List.mem_cons.mp hv with rfl | hv
    · exact hr (hg a v).2 h1
    · exact h2 v hv

theorem le_maxL (l : List ℝ) (v : ℝ) (h : v ∈ l) : v ≤ maxL l := by
  cases l with
  | nil => simp at h
  | cons x t =>
    obtain ⟨h1, h2⟩ := foldl_bound (· ≤ ·) le_refl le_trans Arith.max
      (fun a b => by rw [arith_max]; exact ⟨le_max_left a b, le_max_right a b⟩) t x
    rcases List.mem_cons.mp h with rfl | h
    · exact h1
    · exact h2 v h

theorem minL_le (l : List ℝ) (v : ℝ) (h : v ∈ l) : minL l ≤ v := by
  cases l with
  | nil => simp at h
  | cons x t =>
    obtain ⟨h1, h2⟩ := foldl_bound (· ≥ ·) le_refl (fun h h' => le_trans h' h) Arith.min
      (fun a b => by rw [arith_min]; exact ⟨min_le_left a b, min_le_right a b⟩) t x
    rcases List.mem_cons.mp h with rfl | h
    · exact h1
    · exact h2 v h

/-- a fold with a selecting step (max, min) returns its seed or one of the elements -/
theorem foldl_sel (g : ℝ → ℝ → ℝ) (hg : ∀ a b, g a b = a ∨ g a b = b) (t : List ℝ) (a : ℝ) :
    t.foldl g a = a ∨ t.foldl g a ∈ t := by
  induction t generalizing a with
  | nil => exact .inl rfl
  | cons y u ih =>
    rw [List.foldl_cons]
    rcases ih (g a y) with e | e
    · rcases hg a y with m | m
      · exact .inl (e.trans m)
      · exact .inr (by rw [e, m]; exact List.mem_cons_self)
    · exact .inr (List.mem_cons_of_mem _ e)

/-- the maximum of a non-empty window is one of its elements -/
theorem maxL_mem (l : List ℝ) (h : l ≠ []) : maxL l ∈ l := by
  cases l with
  | nil => exact absurd rfl h
  | cons x t => exact List.mem_cons.mpr (foldl_sel _ (fun a b => by rw [arith_max]; exact max_choice a b) t x)

theorem minL_mem (l : List ℝ) (h : l ≠ []) : minL l ∈ l := by
  cases l with
  | nil => exact absurd rfl h
  | cons x t => exact List.mem_cons.mpr (foldl_sel _ (fun a b => by rw [arith_min]; exact min_choice a b) t x)

theorem window_ne_nil (p : Nat) (hp : 1 ≤ p) (f : Nat → ℝ) (i : Nat) : window p f i ≠ [] := by
  intro h
  have := window_length p f i
  rw [h] at this; simp at this; omega

/-- a lower bound on every element is a lower bound on the extrema -/
theorem maxL_ge_of_all (l : List ℝ) (h : l ≠ []) (b : ℝ) (hb : ∀ v ∈ l, b ≤ v) : b ≤ maxL l := hb _ (maxL_mem l h)
theorem minL_ge_of_all (l : List ℝ) (h : l ≠ []) (b : ℝ) (hb : ∀ v ∈ l, b ≤ v) : b ≤ minL l := hb _ (minL_mem l h)
theorem maxL_le_of_all (l : List ℝ) (h : l ≠ []) (b : ℝ) (hb : ∀ v ∈ l, v ≤ b) : maxL l ≤ b := hb _ (maxL_mem l h)
theorem minL_le_maxL (l : List ℝ) (h : l ≠ []) : minL l ≤ maxL l := le_maxL l _ (minL_mem l h)

end PS
