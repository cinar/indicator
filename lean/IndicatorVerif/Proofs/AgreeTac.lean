import IndicatorVerif.Proofs.AgreeReal
import IndicatorVerif.Proofs.ExtremaReal
import IndicatorVerif.Proofs.RingScan
import IndicatorVerif.Spec.Indicators
import IndicatorVerif.Model.Registry
/-
  Tactic support for the per-indicator formula theorems (C01).
-/
namespace PS
variable {α : Type} [Arith α]
@[simp, ps_body] theorem add_def (a b : PS α) : a + b = map2 (· + ·) a b := rfl
@[simp, ps_body] theorem sub_def (a b : PS α) : a - b = map2 (· - ·) a b := rfl
@[simp, ps_body] theorem mul_def (a b : PS α) : a * b = map2 (· * ·) a b := rfl
@[simp, ps_body] theorem div_def (a b : PS α) : a / b = map2 (· / ·) a b := rfl
end PS

namespace PS
variable {α : Type} [Arith α]
@[simp, ps_body] theorem ema_start (N p : Nat) (k : α) (a : PS α) : (ema N p k a).start = a.start + (p - 1) := rfl
@[simp, ps_body] theorem rma_start (N p : Nat) (a : PS α) : (rma N p a).start = a.start + (p - 1) := rfl
@[simp, ps_body] theorem smma_start (N p : Nat) (a : PS α) : (smma N p a).start = a.start + (p - 1) := rfl
@[simp, ps_body] theorem msum_start (p : Nat) (a : PS α) : (msum p a).start = a.start + (p - 1) := rfl
@[simp, ps_body] theorem wma_start (p : Nat) (a : PS α) : (wma p a).start = a.start + (p - 1) := rfl
@[simp, ps_body] theorem mstd_start (p : Nat) (a : PS α) : (mstd p a).start = a.start + (p - 1) := rfl
@[simp, ps_body] theorem mmax_start (p : Nat) (a : PS α) : (mmax p a).start = a.start + (p - 1) := rfl
@[simp, ps_body] theorem mmin_start (p : Nat) (a : PS α) : (mmin p a).start = a.start + (p - 1) := rfl
@[simp, ps_body] theorem cumul_start (N s : Nat) (i : α) (f : α → Nat → α) : (cumul N s i f).start = s := rfl
end PS

@[ps_body] theorem Nat.max_eq_max' (a b : Nat) : Nat.max a b = max a b := rfl

attribute [ps_body] PS.over PS.scale PS.plus PS.map PS.map2 PS.map3 PS.input PS.from_ PS.prev PS.sma
  Spec.typicalPrice Spec.mfm Spec.mfv Spec.ad Spec.rsi Spec.mlsM Spec.mlsB Spec.atr Spec.trueRange Spec.bbUpper Spec.bbLower
  Spec.bbMiddle Spec.ma.eq_1 Spec.ma.eq_2 Spec.ma.eq_3 Spec.ma.eq_4 Spec.ma.eq_5
  Nat.zero_add Nat.add_zero Nat.zero_max Nat.max_zero Nat.max_self

/-- the half-period WMA is skipped up to the full-period one, so both meet at `start + (p - 1)` -/
theorem Sig.Agree.hma {x : Nat → Nat → ℝ} {e : Sig ℝ} {P : PS ℝ} (p : Nat) (hp : 1 ≤ p) (h : Sig.Agree x e P) :
    Sig.Agree x (Ind.hma p e) (Spec.hma p P) := by
  have hh := Ind.halfRound_pos p hp
  have hl := Ind.halfRound_le p hp
  have m1 := ((h.wma (Ind.halfRound p) hh).skip ((p - 1) - (Ind.halfRound p - 1))).map (fun v => v * Ind.two)
  have z := m1.zip (fun a b => a - b) (h.wma p hp) (by simp [PS.wma]; omega)
  refine (z.wma (Ind.roundSqrt p) (Ind.roundSqrt_pos p hp)).cast ?_ (fun i _ => rfl)
  simp [PS.wma, PS.map2, PS.map, PS.scale, Spec.hma, Spec.halfRound, Ind.halfRound, Spec.roundSqrt, Ind.roundSqrt]; omega

/-- the moving average selected by a kind code (0 sma, 1 ema, 2/3 smma, 4 wma, else hma) -/
theorem Sig.Agree.maOf {x : Nat → Nat → ℝ} {e : Sig ℝ} {P : PS ℝ} (N k p : Nat) (hp : 1 ≤ p) (h : Sig.Agree x e P) :
    Sig.Agree x (Ind.maApply (Ind.maOf k p) e) (Spec.ma N (Spec.maOf k p) P) := by
  match k with
  | 0 => exact h.sma p hp
  | 1 => exact h.ema N p _ hp
  | 2 | 3 => exact h.smma N p hp
  | 4 => exact h.wma p hp
  | _ + 5 => exact h.hma p hp

/-- where a selectable moving average starts: the model's `maIdle` after its argument's start -/
@[ps_body] theorem Spec.ma_start (N k p : Nat) (P : PS ℝ) :
    (Spec.ma N (Spec.maOf k p) P).start = P.start + Ind.maIdle (Ind.maOf k p) := by
  match k with
  | 0 | 1 | 2 | 3 | 4 => rfl
  | _ + 5 =>
    show Nat.max (P.start + (Spec.halfRound p - 1)) (P.start + (p - 1)) + (Spec.roundSqrt p - 1) = _
    simp only [Nat.max_def, Spec.halfRound, Ind.maOf, Ind.maIdle, Spec.roundSqrt, Ind.roundSqrt]
    split <;> omega

/-- ATR over any selectable moving average, on the inputs high, low, close -/
theorem Sig.Agree.atr (N k p : Nat) (hp : 1 ≤ p) (x : Nat → Nat → ℝ) :
    Sig.Agree x (Ind.atr (Ind.maOf k p) (Sig.input 0) (Sig.input 1) (Sig.input 2))
      (Spec.atr N (Spec.maOf k p) (PS.input (x 0)) (PS.input (x 1)) (PS.input (x 2))) :=
  .maOf N k p hp <| (Sig.Agree.zip3 _ ((Sig.Agree.input x 0).skip 1) ((Sig.Agree.input x 1).skip 1)
    ((Sig.Agree.input x 2).lag 1) rfl rfl).cast rfl (fun _ _ => rfl)

/-- derive `Agree x e ?P` structurally (primitive rules first, so that `sma`, `ema` … stay folded) -/
syntax "agree_core " term : tactic
macro_rules
| `(tactic| agree_core $N) => `(tactic|
  with_reducible (repeat' (first
      | apply Sig.Agree.input
      | apply Sig.Agree.map
      | apply Sig.Agree.zip
      | apply Sig.Agree.skip
      | apply Sig.Agree.sma
      | apply Sig.Agree.ema $N
      | apply Sig.Agree.movingSum
      | apply Sig.Agree.movingMax
      | apply Sig.Agree.movingMin
      | apply Sig.Agree.lag
      | apply Sig.Agree.zip3
      | apply Sig.Agree.wma
      | apply Sig.Agree.hma
      | apply Sig.Agree.movingStd
      | apply Sig.Agree.rma $N
      | apply Sig.Agree.smma $N
      | apply Sig.Agree.cumSum $N
      | apply Sig.Agree.maOf $N
      | apply Sig.Agree.countOne)))

macro "ps_simp" : tactic => `(tactic| simp only [ps_body])

/-- `Agree x model spec` for a model term whose definitions have been unfolded to primitives -/
syntax "agree_tac " term : tactic
macro_rules
| `(tactic| agree_tac $N) => `(tactic|
  (apply Sig.Agree.cast
   agree_core $N
   all_goals (try assumption)
   all_goals (try ps_simp)
   -- every join of the model is at equal offsets: under the hypotheses on the periods each `max` of the
   -- formula's starts collapses and each `skip` of the model cancels, so the two sides' starts become the same term
   all_goals (try simp (disch := omega) only [Nat.max_eq_left, Nat.max_eq_right, Nat.add_sub_cancel', Nat.max_self])
   all_goals (first
     | (intro i hi; first
          | trivial
          | with_reducible rfl
          | (congr 3; omega)
          | (congr 2; omega)
          | (congr 4; omega)
          | rfl
          | (simp; done)
          | (simp; ring; done)
          | (simp; field_simp; done)
          | (simp; field_simp; ring; done)
          | (congr 2; funext acc j; simp; done)
          | (congr 2; funext acc j; simp; ring; done)
          | (congr 2; funext acc j; ring; done))
     | omega)))
