import IndicatorVerif.Proofs.RangeReal
/-
  `Scaled c P Q`: the formula `Q` (the indicator evaluated on rescaled inputs) is `c` times the formula `P`
  (the indicator on the original inputs) at every position, with the same warm-up.  Structural rules over ℝ.
-/
noncomputable section
namespace PS
open ArithReal

structure Scaled (c : ℝ) (P Q : PS ℝ) : Prop where
  start_eq : Q.start = P.start
  val_eq : ∀ i, Q.val i = c * P.val i

namespace Scaled
variable {c c' c1 c2 : ℝ} {P Q P' Q' P'' Q'' R R' : PS ℝ}

theorem input (k : ℝ) (x : Nat → ℝ) : Scaled k (input x) (input (fun i => k * x i)) := ⟨rfl, fun _ => rfl⟩
theorem input_same (x : Nat → ℝ) : Scaled 1 (PS.input x) (PS.input x) := ⟨rfl, fun _ => by simp⟩
theorem input_one (x : Nat → ℝ) : Scaled 1 (PS.input x) (PS.input (fun i => 1 * x i)) := input 1 x
theorem cast (h : Scaled c P Q) (e : c = c1) : Scaled c1 P Q := e ▸ h

/-- a pointwise function that turns the factor `c` into `c'` (abs, positive part, squaring, …) -/
theorem map (f : ℝ → ℝ) (c' : ℝ) (hf : ∀ v, f (c * v) = c' * f v) (h : Scaled c P Q) : Scaled c' (map f P) (map f Q) :=
  ⟨h.1, fun i => by simp only [map_val, h.2, hf]⟩
/-- a pointwise function of two streams; `+ − · /` are the instances below -/
theorem map2 (f : ℝ → ℝ → ℝ) (hf : ∀ a b, f (c1 * a) (c2 * b) = c * f a b) (h : Scaled c1 P Q) (h' : Scaled c2 P' Q') :
    Scaled c (map2 f P P') (map2 f Q Q') :=
  ⟨by show Nat.max _ _ = Nat.max _ _; rw [h.1, h'.1], fun i => by simp only [map2_val, h.2, h'.2, hf]⟩
theorem map3_hom (f : ℝ → ℝ → ℝ → ℝ) (hf : ∀ a b d, f (c * a) (c * b) (c * d) = c * f a b d)
    (h : Scaled c P Q) (h' : Scaled c P' Q') (h'' : Scaled c P'' Q'') : Scaled c (map3 f P P' P'') (map3 f Q Q' Q'') :=
  ⟨by show Nat.max (Nat.max _ _) _ = Nat.max (Nat.max _ _) _; rw [h.1, h'.1, h''.1],
   fun i => by show f _ _ _ = c * f _ _ _; rw [h.2, h'.2, h''.2, hf]⟩

theorem add (h : Scaled c P Q) (h' : Scaled c P' Q') : Scaled c (P + P') (Q + Q') :=
  map2 _ (fun a b => (mul_add c a b).symm) h h'
theorem sub (h : Scaled c P Q) (h' : Scaled c P' Q') : Scaled c (P - P') (Q - Q') :=
  map2 _ (fun a b => (mul_sub c a b).symm) h h'
theorem mul (h : Scaled c1 P Q) (h' : Scaled c2 P' Q') : Scaled (c1 * c2) (P * P') (Q * Q') :=
  map2 _ (fun a b => mul_mul_mul_comm c1 a c2 b) h h'
theorem div (h : Scaled c1 P Q) (h' : Scaled c2 P' Q') : Scaled (c1 / c2) (P / P') (Q / Q') :=
  map2 _ (fun a b => mul_div_mul_comm c1 a c2 b) h h'
/-- the quotient of two quantities of the same unit has no unit -/
theorem ratio (hc : c ≠ 0) (h : Scaled c P Q) (h' : Scaled c P' Q') : Scaled 1 (P / P') (Q / Q') :=
  (div h h').cast (div_self hc)
theorem scale (k : ℝ) (h : Scaled c P Q) : Scaled c (scale k P) (scale k Q) := map _ c (fun v => mul_assoc c v k) h
theorem over (k : ℝ) (h : Scaled c P Q) : Scaled c (over k P) (over k Q) := map _ c (fun v => mul_div_assoc c v k) h
/-- any pointwise function of a scale-free quantity is scale-free (`plus a` is one) -/
theorem map_one (f : ℝ → ℝ) (h : Scaled 1 P Q) : Scaled 1 (PS.map f P) (PS.map f Q) :=
  map f 1 (fun v => by rw [one_mul, one_mul]) h
theorem map_abs (hc : 0 ≤ c) (h : Scaled c P Q) : Scaled c (PS.map Arith.abs P) (PS.map Arith.abs Q) :=
  map _ c (fun v => by simp only [arith_abs, abs_mul, abs_of_nonneg hc]) h
theorem map_sq (h : Scaled c P Q) : Scaled (c * c) (PS.map Arith.sq P) (PS.map Arith.sq Q) :=
  map _ (c * c) (fun v => mul_mul_mul_comm c v c v) h
theorem prev (k : Nat) (h : Scaled c P Q) : Scaled c (prev k P) (prev k Q) :=
  ⟨by show Q.start + k = P.start + k; rw [h.1], fun i => by simp only [prev_val, h.2]⟩
theorem from_ (s : Nat) (h : Scaled c P Q) : Scaled c (from_ s P) (from_ s Q) :=
  ⟨by show Nat.max _ _ = Nat.max _ _; rw [h.1], fun i => by simp only [from_val, h.2]⟩
/-- reported from the start of another formula: the two starts are equal, not syntactically the same -/
theorem from_start (hR : Scaled c' R R') (h : Scaled c P Q) : Scaled c (PS.from_ R.start P) (PS.from_ R'.start Q) := by
  rw [hR.start_eq]; exact h.from_ _
theorem ite (b : Prop) [Decidable b] (h1 : Scaled c P Q) (h2 : Scaled c P' Q') :
    Scaled c (if b then P else P') (if b then Q else Q') := by split <;> assumption

theorem window_scaled (h : Scaled c P Q) (p i : Nat) : window p Q.val i = (window p P.val i).map (fun v => c * v) := by
  simp only [window, List.map_map]; congr 1; funext j; simp [h.2]

/-- a fold whose step commutes with the factor (sum, max, min) -/
theorem foldl_hom (g : ℝ → ℝ → ℝ) (hg : ∀ a b, g (c * a) (c * b) = c * g a b) (l : List ℝ) (a : ℝ) :
    (l.map (fun v => c * v)).foldl g (c * a) = c * l.foldl g a := by
  rw [List.foldl_map]; exact List.foldl_hom (c * ·) (fun a b => hg a b)

theorem sumL_scaled (l : List ℝ) : sumL (l.map (fun v => c * v)) = c * sumL l := by
  have := foldl_hom (c := c) (· + ·) (fun a b => (mul_add c a b).symm) l 0
  rwa [mul_zero, ← List.sum_eq_foldl, ← List.sum_eq_foldl, ← Sig.sumL_eq_sum, ← Sig.sumL_eq_sum] at this
theorem maxL_scaled (hc : 0 ≤ c) (l : List ℝ) : maxL (l.map (fun v => c * v)) = c * maxL l := by
  cases l with
  | nil => simp [maxL]
  | cons x t => exact foldl_hom _ (fun a b => by rw [arith_max, arith_max, mul_max_of_nonneg _ _ hc]) t x
theorem minL_scaled (hc : 0 ≤ c) (l : List ℝ) : minL (l.map (fun v => c * v)) = c * minL l := by
  cases l with
  | nil => simp [minL]
  | cons x t => exact foldl_hom _ (fun a b => by rw [arith_min, arith_min, mul_min_of_nonneg _ _ hc]) t x

/-- a statistic of the moving window that turns the factor `c` into `c'` (sum, max, min, standard deviation) -/
theorem windowed (F : List ℝ → ℝ) (p : Nat) (hF : ∀ l, F (l.map (fun v => c * v)) = c' * F l) (h : Scaled c P Q) :
    Scaled c' ⟨P.start + (p - 1), fun i => F (window p P.val i)⟩ ⟨Q.start + (p - 1), fun i => F (window p Q.val i)⟩ :=
  ⟨by show Q.start + _ = P.start + _; rw [h.1], fun i => by show F _ = c' * F _; rw [window_scaled h, hF]⟩

theorem msum (p : Nat) (h : Scaled c P Q) : Scaled c (msum p P) (msum p Q) := windowed sumL p sumL_scaled h
theorem mmax (p : Nat) (hc : 0 ≤ c) (h : Scaled c P Q) : Scaled c (mmax p P) (mmax p Q) := windowed maxL p (maxL_scaled hc) h
theorem mmin (p : Nat) (hc : 0 ≤ c) (h : Scaled c P Q) : Scaled c (mmin p P) (mmin p Q) := windowed minL p (minL_scaled hc) h
theorem sma (p : Nat) (h : Scaled c P Q) : Scaled c (sma p P) (sma p Q) := over _ (msum p h)

/-- standard deviation scales with the data (non-negative factor): the deviations scale, their squares by `c²` -/
theorem mstd (p : Nat) (hc : 0 ≤ c) (h : Scaled c P Q) : Scaled c (mstd p P) (mstd p Q) :=
  windowed (fun w => Arith.sqrt (sumL (w.map (fun v => Arith.sq (v - sumL w / Arith.nat p))) / Arith.nat p)) p (fun w => by
    simp only [sumL_scaled, List.map_map, Function.comp_def, arith_sq, arith_sqrt]
    have e : (fun v => (c * v - c * sumL w / (Arith.nat p : ℝ)) * (c * v - c * sumL w / (Arith.nat p : ℝ)))
        = (fun v => c * c * v) ∘ (fun v => (v - sumL w / (Arith.nat p : ℝ)) * (v - sumL w / (Arith.nat p : ℝ))) := by
      funext v; simp only [Function.comp]; ring
    rw [e, ← List.map_map, sumL_scaled, mul_div_assoc, Real.sqrt_mul (mul_self_nonneg c), Real.sqrt_mul_self hc]) h

/-- two runs of a recursion whose seeds are related and whose steps preserve the relation stay related -/
theorem _root_.PS.recG_rel {β : Type} (R : β → β → Prop) (f0 g0 : β) (fs gs : β → Nat → β)
    (h0 : R f0 g0) (hs : ∀ a b m, R a b → R (fs a m) (gs b m)) (m : Nat) : R (recG f0 fs m) (recG g0 gs m) := by
  induction m with
  | zero => exact h0
  | succ m ih => exact hs _ _ m ih

/-- seed-and-recurrence averages with a linear update (EMA, RMA, SMMA) -/
theorem recAvg (N p : Nat) (upd : ℝ → ℝ → ℝ) (hu : ∀ a b, upd (c * a) (c * b) = c * upd a b) (h : Scaled c P Q) :
    Scaled c (recAvg N p upd P) (recAvg N p upd Q) := by
  refine ⟨by show Q.start + _ = P.start + _; rw [h.1], fun i => ?_⟩
  simp only [PS.recAvg, tabVal_eq, h.1]
  exact recG_rel (fun a b => b = c * a) _ _ _ _ (by rw [window_scaled h, sumL_scaled, div_eq, div_eq, mul_div_assoc])
    (fun a b m hab => by rw [hab, h.2, hu]) _

theorem ema (N p : Nat) (sm : ℝ) (h : Scaled c P Q) : Scaled c (ema N p sm P) (ema N p sm Q) :=
  recAvg N p _ (fun a b => by simp only [sub_eq, mul_eq, add_eq, div_eq]; ring) h
theorem rma (N p : Nat) (h : Scaled c P Q) : Scaled c (rma N p P) (rma N p Q) :=
  recAvg N p _ (fun a b => by simp only [mul_eq, add_eq, div_eq]; ring) h
theorem smma (N p : Nat) (h : Scaled c P Q) : Scaled c (smma N p P) (smma N p Q) := rma N p h

/-- a cumulative formula whose step is homogeneous of degree 1 in (accumulator, inputs) is scaled -/
theorem cumul (N s : Nat) (init init' : ℝ) (f g : ℝ → Nat → ℝ)
    (h0 : g init' s = c * f init s) (hs : ∀ a i, s < i → g (c * a) i = c * f a i) :
    Scaled c (cumul N s init f) (cumul N s init' g) := by
  refine ⟨rfl, fun i => ?_⟩
  simp only [PS.cumul, tabVal_eq]
  exact recG_rel (fun a b => b = c * a) _ _ _ _ h0 (fun a b m hab => by rw [hab]; exact hs a _ (by omega)) _

/-- a cumulative sum of scaled increments is scaled (Ad, Vpt: `acc + value`, starting from zero) -/
theorem cumulSum (N s : Nat) (f g : Nat → ℝ) (h : ∀ i, g i = c * f i) :
    Scaled c (PS.cumul N s Spec.zero (fun acc i => acc + f i)) (PS.cumul N s Spec.zero (fun acc i => acc + g i)) :=
  cumul N s _ _ _ _ (by simp [Spec.zero, h]) (fun a i _ => by simp only [h]; ring)

/-- weighted moving average: linear in the data -/
theorem wma (p : Nat) (h : Scaled c P Q) : Scaled c (PS.wma p P) (PS.wma p Q) := by
  refine ⟨by show Q.start + _ = P.start + _; rw [h.1], fun i => ?_⟩
  simp only [PS.wma, div_eq, mul_eq, add_eq]
  have := List.foldl_hom (c * ·) (l := List.range p) (init := (0 : ℝ))
    (g₁ := fun s k => s + P.val (i + 1 - p + k) * (Arith.nat (k + 1) : ℝ) / (Arith.nat p : ℝ))
    (g₂ := fun s k => s + Q.val (i + 1 - p + k) * (Arith.nat (k + 1) : ℝ) / (Arith.nat p : ℝ))
    (fun a k => by rw [h.2]; ring)
  rw [mul_zero] at this
  rw [show (Arith.nat 0 : ℝ) = 0 by simp, this, mul_div_assoc]

theorem hma (p : Nat) (h : Scaled c P Q) : Scaled c (Spec.hma p P) (Spec.hma p Q) :=
  wma _ (sub (scale _ (wma _ h)) (wma _ h))

theorem ma (N : Nat) (m : Spec.Ma) (h : Scaled c P Q) : Scaled c (Spec.ma N m P) (Spec.ma N m Q) := by
  cases m with
  | sma p => exact sma p h
  | ema p => exact ema N p _ h
  | smma p => exact smma N p h
  | wma p => exact wma p h
  | hma p => exact hma p h

/-- true range = max(high − low, high − previous close, previous close − low) scales with the prices -/
theorem trueRange (hc : 0 ≤ c) (h : Scaled c P Q) (h' : Scaled c P' Q') (h'' : Scaled c P'' Q'') :
    Scaled c (Spec.trueRange P P' P'') (Spec.trueRange Q Q' Q'') :=
  map3_hom _ (fun a b d => by
    simp only [arith_max, sub_eq]
    rw [← mul_sub, ← mul_sub, ← mul_sub, ← mul_max_of_nonneg _ _ hc, ← mul_max_of_nonneg _ _ hc]) h h' (prev 1 h'')

theorem atr (N : Nat) (m : Spec.Ma) (hc : 0 ≤ c) (h : Scaled c P Q) (h' : Scaled c P' Q') (h'' : Scaled c P'' Q'') :
    Scaled c (Spec.atr N m P P' P'') (Spec.atr N m Q Q' Q'') := ma N m (trueRange hc h h' h'')

theorem typicalPrice (h : Scaled c P Q) (h' : Scaled c P' Q') (h'' : Scaled c P'' Q'') :
    Scaled c (Spec.typicalPrice P P' P'') (Spec.typicalPrice Q Q' Q'') := over _ (add (add h h') h'')

theorem bbUpper (p : Nat) (hc : 0 ≤ c) (h : Scaled c P Q) : Scaled c (Spec.bbUpper p P) (Spec.bbUpper p Q) :=
  add (sma p h) (scale _ (mstd p hc h))
theorem bbLower (p : Nat) (hc : 0 ≤ c) (h : Scaled c P Q) : Scaled c (Spec.bbLower p P) (Spec.bbLower p Q) :=
  sub (sma p h) (scale _ (mstd p hc h))

/-- the regression slope and intercept scale with the ordinates; the abscissae `P` keep their unit -/
theorem mlsM (p : Nat) (hx : Scaled 1 P Q) (h : Scaled c P' Q') : Scaled c (Spec.mlsM p P P') (Spec.mlsM p Q Q') :=
  ((sub (scale _ (msum p (mul hx h))) (mul (msum p hx) (msum p h))).cast (one_mul c)).div
    ((sub (scale _ (msum p (map_sq hx))) (mul (msum p hx) (msum p hx))).cast (one_mul 1)) |>.cast (div_one c)
theorem mlsB (p : Nat) (hx : Scaled 1 P Q) (h : Scaled c P' Q') : Scaled c (Spec.mlsB p P P') (Spec.mlsB p Q Q') :=
  over _ (sub (msum p h) ((mul (mlsM p hx h) (msum p hx)).cast (mul_one c)))

/-- money-flow multiplier: a ratio of price differences -/
theorem mfm (hc : c ≠ 0) (h : Scaled c P Q) (h' : Scaled c P' Q') (h'' : Scaled c P'' Q'') :
    Scaled 1 (Spec.mfm P P' P'') (Spec.mfm Q Q' Q'') :=
  ratio hc (sub (sub h'' h') (sub h h'')) (sub h h')
/-- money-flow volume has the unit of the volume `R` -/
theorem mfv (hc : c ≠ 0) (h : Scaled c P Q) (h' : Scaled c P' Q') (h'' : Scaled c P'' Q'') (hv : Scaled c' R R') :
    Scaled c' (Spec.mfv P P' P'' R) (Spec.mfv Q Q' Q'' R') := (mul (mfm hc h h' h'') hv).cast (one_mul c')
/-- accumulation / distribution: a cumulative sum of money-flow volumes -/
theorem ad (N : Nat) (hc : c ≠ 0) (h : Scaled c P Q) (h' : Scaled c P' Q') (h'' : Scaled c P'' Q'') (hv : Scaled c' R R') :
    Scaled c' (Spec.ad N P P' P'' R) (Spec.ad N Q Q' Q'' R') := by
  have hm := mfv hc h h' h'' hv
  show Scaled _ (PS.cumul N (Spec.mfv P P' P'' R).start Spec.zero (fun acc i => acc + (Spec.mfv P P' P'' R).val i))
    (PS.cumul N (Spec.mfv Q Q' Q'' R').start Spec.zero (fun acc i => acc + (Spec.mfv Q Q' Q'' R').val i))
  rw [hm.start_eq]
  exact cumulSum N _ _ _ hm.val_eq

end Scaled
end PS
