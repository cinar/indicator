import IndicatorVerif.Props.C03
/-
  C03 — tools for exhibiting ONE run of a concrete network: reachability, the ways a process moves stated as
  rewrite-free lemmas about a VARIABLE network and state, the two communication patterns every canonical run is made
  of (`handover`: send / receive / hand-over wait on an unbuffered channel; `close_recv`), a normal form for states
  given by finitely many components (`tcons`), and the passage from one clean run on the smallest buffers to clean
  termination on all larger ones (`clean_of_reach`).
-/
namespace C03
open Net

variable {L V : Type}

/-! ### reachability -/

/-- some schedule leads from `s` to `s'` -/
def Reach (N : Network L V) (s s' : St L V) : Prop := ∃ t, run N t s = some s'

theorem Reach.refl (N : Network L V) (s : St L V) : Reach N s s := ⟨[], rfl⟩

theorem Reach.trans {N : Network L V} {s1 s2 s3 : St L V} (h1 : Reach N s1 s2) (h2 : Reach N s2 s3) :
    Reach N s1 s3 := by
  obtain ⟨t1, h1⟩ := h1
  obtain ⟨t2, h2⟩ := h2
  exact ⟨t1 ++ t2, by rw [run_append, h1]; exact h2⟩

theorem Reach.of_step {N : Network L V} {p : Nat} {s s' : St L V} (h : step N p s = some s') : Reach N s s' :=
  ⟨[p], by simp [run, h]⟩

theorem Reach.of_eq {N : Network L V} {s s' : St L V} (h : s = s') : Reach N s s' := h ▸ Reach.refl N s

/-! ### the ways a process moves -/

section Steps
variable {N : Network L V} {s : St L V} {l : L}

theorem upd_id {α : Type} (f : Nat → α) (i : Nat) (v : α) (h : f i = v) : upd f i v = f := by
  funext j; simp only [upd]; split
  · next e => rw [e, h]
  · rfl

/-- a value is put into a buffered channel that has room -/
theorem send_buffered (p c : Nat) {v : V} {k : L} {q : List V}
    (hp : s.procs p = (l, none)) (ha : N.act p l = .send c v k) (hc : s.chans c = (q, false))
    (hq : q.length < N.cap c) :
    Reach N s ⟨upd s.procs p (k, none), upd s.chans c (q ++ [v], false)⟩ := by
  have h := fired_step _ _ _ _ (.send (N := N) (p := p) c v k q (by rw [hp]) (by rw [hp]; exact ha) hc (by omega))
  rw [if_neg (by omega)] at h
  exact .of_step h

/-- a value is taken out of a channel -/
theorem recv_queued (p c : Nat) {k : Option V → L} {v : V} {q : List V} {cl : Bool}
    (hp : s.procs p = (l, none)) (ha : N.act p l = .recv c k) (hc : s.chans c = (v :: q, cl)) :
    Reach N s ⟨upd s.procs p (k (some v), none), upd s.chans c (q, cl)⟩ :=
  .of_step (fired_step _ _ _ _ (.recvSome c k v q cl (by rw [hp]) (by rw [hp]; exact ha) hc))

/-- the reader of a closed and empty channel learns that it is closed -/
theorem recv_closed (p c : Nat) {k : Option V → L}
    (hp : s.procs p = (l, none)) (ha : N.act p l = .recv c k) (hc : s.chans c = ([], true)) :
    Reach N s ⟨upd s.procs p (k none, none), s.chans⟩ := by
  have h := fired_step _ _ _ _ (.recvNone (N := N) (p := p) c k (by rw [hp]) (by rw [hp]; exact ha) hc)
  rw [upd_id _ _ _ hc] at h
  exact .of_step h

theorem close_chan (p c : Nat) {k : L} {q : List V}
    (hp : s.procs p = (l, none)) (ha : N.act p l = .close c k) (hc : s.chans c = (q, false)) :
    Reach N s ⟨upd s.procs p (k, none), upd s.chans c (q, true)⟩ :=
  .of_step (fired_step _ _ _ _ (.close c k q (by rw [hp]) (by rw [hp]; exact ha) hc))

/-- **hand-over** on an unbuffered channel: `a` sends, `b` receives, `a` is released; the channels are as before -/
theorem handover (a b c : Nat) {la lb ka : L} {kb : Option V → L} {v : V} (hab : a ≠ b)
    (hpa : s.procs a = (la, none)) (haa : N.act a la = .send c v ka)
    (hpb : s.procs b = (lb, none)) (hab' : N.act b lb = .recv c kb)
    (hcap : N.cap c = 0) (hc : s.chans c = ([], false)) :
    Reach N s ⟨upd (upd s.procs a (ka, none)) b (kb (some v), none), s.chans⟩ := by
  have hba : b ≠ a := fun e => hab e.symm
  have h1 := fired_step _ _ _ _
    (.send (N := N) (p := a) c v ka [] (by rw [hpa]) (by rw [hpa]; exact haa) hc (by simp [hcap]))
  rw [if_pos hcap] at h1
  have h2 := fired_step N b ⟨upd s.procs a (ka, some c), upd s.chans c ([] ++ [v], false)⟩ _
    (.recvSome c kb v [] false (by simp [upd, hba, hpb]) (by simpa [upd, hba, hpb] using hab') (by simp [upd]))
  have h3 := fired_step N a
    ⟨upd (upd s.procs a (ka, some c)) b (kb (some v), none), upd (upd s.chans c ([] ++ [v], false)) c ([], false)⟩ _
    (.sync c false (by simp [upd, hab]) (by simp [upd]))
  refine (Reach.of_step h1).trans ((Reach.of_step h2).trans ((Reach.of_step h3).trans (.of_eq ?_)))
  congr 1
  · simp only [upd_other _ _ _ _ hab, upd_same]
    rw [upd_comm _ _ _ _ _ hba, upd_upd, upd_comm _ _ _ _ _ hab]
  · rw [upd_upd, upd_upd, upd_id _ _ _ hc]

/-- `a` closes the empty channel `c` and its reader `b` learns it -/
theorem close_recv (a b c : Nat) {la lb ka : L} {kb : Option V → L} (hab : a ≠ b)
    (hpa : s.procs a = (la, none)) (haa : N.act a la = .close c ka)
    (hpb : s.procs b = (lb, none)) (hab' : N.act b lb = .recv c kb)
    (hc : s.chans c = ([], false)) :
    Reach N s ⟨upd (upd s.procs a (ka, none)) b (kb none, none), upd s.chans c ([], true)⟩ := by
  have hba : b ≠ a := fun e => hab e.symm
  refine (close_chan a c hpa haa hc).trans ?_
  have h := recv_closed (N := N) (s := ⟨upd s.procs a (ka, none), upd s.chans c ([], true)⟩) b c
    (by simpa [upd, hba] using hpb) hab' (by simp [upd])
  exact h

end Steps

/-! ### states given by finitely many components -/

/-- `tcons a f` is `a` at 0 and `f` shifted by one elsewhere: `tcons l0 (tcons l1 (… (fun _ => d)))` is the normal form
    of a state component; `upd` at a numeral computes on it, whatever the tail -/
def tcons {α : Type} (a : α) (f : Nat → α) : Nat → α
  | 0 => a
  | j + 1 => f j

@[simp] theorem tcons_zero {α : Type} (a : α) (f : Nat → α) : tcons a f 0 = a := rfl
@[simp] theorem tcons_succ {α : Type} (a : α) (f : Nat → α) (j : Nat) : tcons a f (j + 1) = f j := rfl

@[simp] theorem upd_tcons_zero {α : Type} (a v : α) (f : Nat → α) : upd (tcons a f) 0 v = tcons v f := by
  funext j; cases j <;> simp [upd, tcons]

@[simp] theorem upd_tcons_succ {α : Type} (a v : α) (f : Nat → α) (i : Nat) :
    upd (tcons a f) (i + 1) v = tcons a (upd f i v) := by
  funext j; cases j <;> simp [upd, tcons]

/-! ### from one clean run on small buffers to every run on larger ones -/

/-- **one clean run suffices**: if some schedule of `N` leads from `s` to a state `e` in which every process has
    halted, then for every network `N'` with the same processes and larger capacities that is `Safe` from `s`: every
    execution from `s` is bounded, `e` is the only state in which an execution can stop, every process has halted in
    it, and it is reached -/
theorem clean_of_reach (N N' : Network L V) (hL : Larger N N') (s e : St L V) (hS : Safe N' s)
    (hr : Reach N s e) (hH : AllHalted N e) :
    (∃ bound, ∀ t s2, run N' t s = some s2 → t.length ≤ bound ∧ (Terminal N' s2 → s2 = e)) ∧
      AllHalted N' e ∧ Reach N' s e := by
  obtain ⟨t0, h0⟩ := hr
  obtain ⟨t', e', hr', hRe, hlen⟩ := capacity_mono _ _ hL t0 _ _ _ (rel_refl _) h0
  have hH' := rel_allHalted _ _ hL _ _ hRe hH
  have hT' := allHalted_terminal _ _ hH'
  -- all processes halted in both, so the states agree in the hand-over flags too
  have key : ∀ s2, AllHalted N' s2 → s2.chans = e.chans → (∀ p, (s2.procs p).1 = (e.procs p).1) → s2 = e := by
    intro ⟨P, C⟩ hA hC hP
    obtain rfl : C = e.chans := hC
    have : P = e.procs := funext fun p => Prod.ext (hP p) ((hA p).1.trans (hH p).1.symm)
    rw [this]
  obtain rfl : e' = e := key e' hH' hRe.1 fun p => (hRe.2 p).1
  refine ⟨⟨t0.length, fun t s2 h2 => ⟨?_, fun hT => ?_⟩⟩, hH', t', hr'⟩
  · have := no_longer_schedule' _ t' t _ e' s2 hS hr' hT' h2
    omega
  · obtain ⟨hA, hC, hP⟩ := clean_termination_for_larger_capacities' _ _ hL t0 _ _ hS h0 hH t s2 h2 hT
    exact key s2 hA hC hP

end C03
