import IndicatorVerif.Props.C18
/-
  C18 — scale covariance of the four indicators whose formulas are recurrences with a case distinction or contain a
  regression on internal abscissae: NVI, KAMA, SuperTrend, Projection Oscillator (hand-proved).
-/
noncomputable section
namespace C18
open PS Spec ArithReal

/-! ### NVI -/

/-- **NVI depends neither on the currency unit nor on the volume unit** (the starting value is a configured constant,
    every later value multiplies it by `1 + relative price change` on the bars whose volume did not increase) -/
theorem nvi_invariant (N : Nat) (fs : List ℝ) (k kv : ℝ) (hk : 0 < k) (hv : 0 < kv) (x : Nat → Nat → ℝ) :
    ∃ P1 Q1,
      formulas N "Nvi" [] fs x = some [P1] ∧
      formulas N "Nvi" [] fs (fun j i => (match j with | 1 => kv | _ => k) * x j i) = some [Q1] ∧
      Scaled 1 P1 Q1 := by
  refine ⟨_, _, rfl, rfl, ?_⟩
  have step : ∀ a i,
      (if Arith.gt (kv * x 1 i) (kv * x 1 (i - 1)) then a
        else a + ((k * x 0 i - k * x 0 (i - 1)) / (k * x 0 (i - 1))) * a)
      = (if Arith.gt (x 1 i) (x 1 (i - 1)) then a else a + ((x 0 i - x 0 (i - 1)) / x 0 (i - 1)) * a) := by
    intro a i
    rw [gt_scale kv hv]
    have e : (k * x 0 i - k * x 0 (i - 1)) / (k * x 0 (i - 1)) = (x 0 i - x 0 (i - 1)) / x 0 (i - 1) := by
      rw [← mul_sub, mul_div_mul_left _ _ hk.ne']
    rw [e]
  apply Scaled.cumul
  · rw [one_mul]; exact step _ _
  · intro a i _; rw [one_mul, one_mul]; exact step a i

/-- non-vacuity: dollars → cents, shares → lots of 100; every reported NVI value is literally the same -/
example (x : Nat → Nat → ℝ) : ∃ P Q, formulas 0 "Nvi" [] [1000] x = some [P] ∧
    formulas 0 "Nvi" [] [1000] (fun j i => (match j with | 1 => 1 / 100 | _ => 100) * x j i) = some [Q] ∧
    Q.start = P.start ∧ ∀ i, Q.val i = P.val i := by
  obtain ⟨P, Q, hP, hQ, h⟩ := nvi_invariant 0 [1000] 100 (1 / 100) (by norm_num) (by norm_num) x
  exact ⟨P, Q, hP, hQ, h.start_eq, fun i => by rw [h.val_eq, one_mul]⟩

/-! ### Projection Oscillator -/

/-- the internal abscissae 1, 2, 3, … of the regression are not prices -/
theorem abscissae_same : Scaled 1 (⟨0, fun i => Arith.nat (i + 1)⟩ : PS ℝ) ⟨0, fun i => Arith.nat (i + 1)⟩ :=
  ⟨rfl, fun _ => by simp⟩

/-- **The Projection Oscillator does not depend on the currency unit** -/
theorem po_scaled (N p1 : Nat) (fs : List ℝ) (k : ℝ) (hk : 0 < k) (x : Nat → Nat → ℝ) :
    ∃ P1 Q1,
      formulas N "Po" [p1] fs x = some [P1] ∧
      formulas N "Po" [p1] fs (fun j i => k * x j i) = some [Q1] ∧
      Scaled 1 P1 Q1 := by
  refine ⟨_, _, rfl, rfl, ?_⟩
  have h0 := Scaled.input k (x 0)
  have h1 := Scaled.input k (x 1)
  have h2 := Scaled.input k (x 2)
  have hpl := Scaled.mmin p1 hk.le (Scaled.add h0 (Scaled.mlsM p1 abscissae_same h0))
  have hph := Scaled.mmax p1 hk.le (Scaled.add h1 (Scaled.mlsM p1 abscissae_same h1))
  exact Scaled.scale _ (Scaled.ratio hk.ne' (Scaled.sub h2 hpl) (Scaled.sub hph hpl))

/-- non-vacuity: dollars → cents with the default period -/
example (x : Nat → Nat → ℝ) : ∃ P Q, formulas 0 "Po" [14] [] x = some [P] ∧
    formulas 0 "Po" [14] [] (fun j i => 100 * x j i) = some [Q] ∧ Q.start = P.start ∧ ∀ i, Q.val i = P.val i := by
  obtain ⟨P, Q, hP, hQ, h⟩ := po_scaled 0 14 [] 100 (by norm_num) x
  exact ⟨P, Q, hP, hQ, h.start_eq, fun i => by rw [h.val_eq, one_mul]⟩

/-! ### KAMA -/

/-- Kaufman's recurrence with a scale-free smoothing constant: the average scales with the prices -/
theorem kama_core (N : Nat) (k : ℝ) (x : Nat → ℝ) (S S' : PS ℝ) (h : Scaled 1 S S') :
    Scaled k
      (cumul N S.start zero (fun acc i =>
        let prevK := if i = S.start then x (i - 1) else acc
        prevK + S.val i * (x i - prevK)))
      (cumul N S'.start zero (fun acc i =>
        let prevK := if i = S'.start then k * x (i - 1) else acc
        prevK + S'.val i * (k * x i - prevK))) := by
  rw [h.start_eq]
  apply Scaled.cumul
  · simp only [if_true, h.val_eq]; ring
  · intro a i hi
    have hne : ¬ i = S.start := by omega
    simp only [hne, if_false, h.val_eq]; ring

/-- **KAMA scales with the prices** (the efficiency ratio |x_i − x_{i−er}| / Σ|x_j − x_{j−1}| and hence the smoothing
    constant are scale-free — also where the volatility is zero, since then the ratio is 0 for both) -/
theorem kama_scaled (N er fast slow : Nat) (fs : List ℝ) (k : ℝ) (hk : 0 < k) (x : Nat → Nat → ℝ) :
    ∃ P1 Q1,
      formulas N "Kama" [er, fast, slow] fs x = some [P1] ∧
      formulas N "Kama" [er, fast, slow] fs (fun j i => k * x j i) = some [Q1] ∧
      Scaled k P1 Q1 := by
  refine ⟨_, _, rfl, rfl, ?_⟩
  have h0 := Scaled.input k (x 0)
  have hdir := Scaled.map_abs hk.le (Scaled.sub h0 (Scaled.prev er h0))
  have hvol := Scaled.msum er (Scaled.map_abs hk.le (Scaled.sub h0 (Scaled.prev 1 h0)))
  have hsc := Scaled.map_one
    (fun e => Arith.sq (e * ((two : ℝ) / Arith.nat (fast + 1) - two / Arith.nat (slow + 1)) + two / Arith.nat (slow + 1)))
    (Scaled.ratio hk.ne' hdir hvol)
  exact kama_core N k (x 0) _ _ hsc

/-- non-vacuity: dollars → cents with the default periods (10, 2, 30), also on a constant series (zero volatility) -/
example : ∃ P Q, formulas 0 "Kama" [10, 2, 30] [] (fun _ _ => (5 : ℝ)) = some [P] ∧
    formulas 0 "Kama" [10, 2, 30] [] (fun _ _ => 100 * (5 : ℝ)) = some [Q] ∧ Q.start = P.start ∧ ∀ i, Q.val i = 100 * P.val i := by
  obtain ⟨P, Q, hP, hQ, h⟩ := kama_scaled 0 10 2 30 [] 100 (by norm_num) (fun _ _ => (5 : ℝ))
  exact ⟨P, Q, hP, hQ, h.start_eq, h.val_eq⟩

/-! ### SuperTrend -/

/-- the documented step on the state (upTrend, finalUpper, finalLower, superTrend) -/
def stStep (bu bl pc cl : ℝ) (first : Bool) (st : Bool × ℝ × ℝ × ℝ) : Bool × ℝ × ℝ × ℝ :=
  if first then (false, bu, bl, bl) else
  let (up, fu, fl, _) := st
  let fu' := if Arith.lt bu fu || Arith.gt pc fu then bu else fu
  let fl' := if Arith.gt bl fl || Arith.lt pc fl then bl else fl
  if up then (if Arith.le cl fu' then (true, fu', fl', fu') else (false, fu', fl', fl'))
  else (if Arith.ge cl fl' then (false, fu', fl', fl') else (true, fu', fl', fu'))

/-- the same trend flag, every band multiplied by k -/
def scaleSt (k : ℝ) (s : Bool × ℝ × ℝ × ℝ) : Bool × ℝ × ℝ × ℝ := (s.1, k * s.2.1, k * s.2.2.1, k * s.2.2.2)

/-- every comparison of the step is between two prices: with all of them multiplied by k > 0 the step takes the same
    branch and its result is multiplied by k -/
theorem stStep_hom (k : ℝ) (hk : 0 < k) (bu bl pc cl : ℝ) (first : Bool) (st : Bool × ℝ × ℝ × ℝ) :
    stStep (k * bu) (k * bl) (k * pc) (k * cl) first (scaleSt k st) = scaleSt k (stStep bu bl pc cl first st) := by
  obtain ⟨up, fu, fl, sv⟩ := st
  cases first
  · simp only [stStep, scaleSt, lt_scale k hk, Bool.false_eq_true, if_false]
    generalize (Arith.lt bu fu || Arith.gt pc fu) = A
    generalize (Arith.gt bl fl || Arith.lt pc fl) = B
    cases A <;> cases B <;> cases up <;>
      simp only [Bool.false_eq_true, if_false, if_true, le_scale k hk] <;> split <;> rfl
  · simp only [stStep, scaleSt, if_true]

/-- the documented fold over positions -/
def stFold (N s : Nat) (mult : ℝ) (med a c : Nat → ℝ) : Nat → Bool × ℝ × ℝ × ℝ :=
  cumulState N s (false, (zero : ℝ), (zero : ℝ), (zero : ℝ)) (fun acc i =>
    stStep (med i + mult * a i) (med i - mult * a i) (c (i - 1)) (c i) (i == s) acc)

theorem superTrendFold_eq (N : Nat) (mult : ℝ) (m : Ma) (h l c : PS ℝ) :
    superTrendFold N mult m h l c = ⟨(atr N m h l c).start, fun i =>
      (stFold N (atr N m h l c).start mult (over two (h + l)).val (atr N m h l c).val c.val i).2.2.2⟩ := by
  simp only [superTrendFold, cache_start, cache_val]
  rfl

theorem stFold_scaled (N s : Nat) (mult k : ℝ) (hk : 0 < k) (med a c med' a' c' : Nat → ℝ)
    (hm : ∀ i, med' i = k * med i) (ha : ∀ i, a' i = k * a i) (hc : ∀ i, c' i = k * c i) (i : Nat) :
    stFold N s mult med' a' c' i = scaleSt k (stFold N s mult med a c i) := by
  have eu : ∀ i, med' i + mult * a' i = k * (med i + mult * a i) := fun i => by rw [hm, ha]; ring
  have el : ∀ i, med' i - mult * a' i = k * (med i - mult * a i) := fun i => by rw [hm, ha]; ring
  simp only [stFold, cumulState, tabVal_eq]
  apply recG_rel (fun a b => b = scaleSt k a)
  · simp only [beq_self_eq_true, stStep, if_true, scaleSt, eu, el]
  · intro st st' j hst
    rw [hst, eu, el, hc, hc, stStep_hom k hk]

/-- SuperTrend of rescaled high / low / closing streams -/
theorem superTrendFold_scaled (N : Nat) (mult k : ℝ) (hk : 0 < k) (m : Ma) {H L C H' L' C' : PS ℝ}
    (hh : Scaled k H H') (hl : Scaled k L L') (hc : Scaled k C C') :
    Scaled k (superTrendFold N mult m H L C) (superTrendFold N mult m H' L' C') := by
  have ha := Scaled.atr N m hk.le hh hl hc
  have hmed := Scaled.over (two : ℝ) (Scaled.add hh hl)
  rw [superTrendFold_eq, superTrendFold_eq]
  refine ⟨ha.start_eq, fun i => ?_⟩
  show (stFold N (atr N m H' L' C').start mult _ _ _ i).2.2.2 = k * (stFold N (atr N m H L C).start mult _ _ _ i).2.2.2
  rw [ha.start_eq, stFold_scaled N _ mult k hk _ _ _ _ _ _ hmed.val_eq ha.val_eq hc.val_eq i]
  rfl

/-- **SuperTrend scales with the prices** (the multiplier of the ATR is a configured constant; the band updates and the
    trend flips compare prices with prices, so the trend is the same and the reported band is multiplied by k) -/
theorem superTrend_scaled (N kind p : Nat) (fs : List ℝ) (k : ℝ) (hk : 0 < k) (x : Nat → Nat → ℝ) :
    ∃ P1 Q1,
      formulas N "SuperTrend" [kind, p] fs x = some [P1] ∧
      formulas N "SuperTrend" [kind, p] fs (fun j i => k * x j i) = some [Q1] ∧
      Scaled k P1 Q1 := by
  refine ⟨_, _, rfl, rfl, ?_⟩
  exact superTrendFold_scaled N _ k hk _ (Scaled.input k (x 0)) (Scaled.input k (x 1)) (Scaled.input k (x 2))

/-- non-vacuity: dollars → cents with the default configuration (HMA-smoothed ATR of period 14, multiplier 2.5) -/
example (x : Nat → Nat → ℝ) : ∃ P Q, formulas 0 "SuperTrend" [5, 14] [5 / 2] x = some [P] ∧
    formulas 0 "SuperTrend" [5, 14] [5 / 2] (fun j i => 100 * x j i) = some [Q] ∧
    Q.start = P.start ∧ ∀ i, Q.val i = 100 * P.val i := by
  obtain ⟨P, Q, hP, hQ, h⟩ := superTrend_scaled 0 5 14 [5 / 2] 100 (by norm_num) x
  exact ⟨P, Q, hP, hQ, h.start_eq, h.val_eq⟩

end C18
