import IndicatorVerif.Proofs.ScaleReal
import IndicatorVerif.Model.StrategyOps
/-
  C18 — scale covariance, hand-proved part (the generated per-indicator theorems are in C18Gen.lean):
  * the indicators whose formulas contain sign tests (RSI, Stochastic RSI, MFI);
  * the decision rules of the strategies: every comparison a strategy makes is between two quantities of the same
    degree, or between a scale-free quantity and a constant, so it is unchanged by a positive factor.
-/
noncomputable section
namespace C18
open PS Spec ArithReal

theorem zero_eq : (zero : ℝ) = 0 := by simp [zero]

/-! ### decisions -/

/-- a comparison between two quantities of the same degree is unchanged by a positive factor -/
theorem gt_scale (k : ℝ) (hk : 0 < k) (a b : ℝ) : Arith.gt (k * a) (k * b) = Arith.gt a b := by
  simp only [Arith.gt, Arith.lt, mul_lt_mul_iff_right₀ hk]
theorem lt_scale (k : ℝ) (hk : 0 < k) (a b : ℝ) : Arith.lt (k * a) (k * b) = Arith.lt a b := gt_scale k hk b a
theorem le_scale (k : ℝ) (hk : 0 < k) (a b : ℝ) : Arith.le (k * a) (k * b) = Arith.le a b := by
  simp only [Arith.le, mul_le_mul_iff_right₀ hk]
/-- the sign of a quantity of any degree is unchanged -/
theorem sign_scale (k : ℝ) (hk : 0 < k) (a : ℝ) : Arith.gt (k * a) 0 = Arith.gt a 0 ∧ Arith.lt (k * a) 0 = Arith.lt a 0 := by
  have h := gt_scale k hk a 0; have h' := lt_scale k hk a 0
  rw [mul_zero] at h h'; exact ⟨h, h'⟩

/-- the Stop-Loss test `closing ≤ purchase · (1 − pct)` is between two prices: unchanged by the currency unit -/
theorem stop_loss_test_scale (k : ℝ) (hk : 0 < k) (closing purchase pct : ℝ) :
    (k * closing ≤ (k * purchase) * (1 - pct)) ↔ (closing ≤ purchase * (1 - pct)) := by
  rw [mul_assoc, mul_le_mul_iff_right₀ hk]

/-! ### indicators with sign tests: the test is unchanged (`sign_scale`), the selected value is multiplied -/

theorem pos_part_hom (k : ℝ) (hk : 0 < k) (v : ℝ) :
    (if Arith.gt (k * v) zero then k * v else zero) = k * (if Arith.gt v zero then v else zero) := by
  rw [zero_eq, (sign_scale k hk v).1, mul_ite, mul_zero]

theorem neg_part_hom (k : ℝ) (hk : 0 < k) (v : ℝ) :
    (if Arith.lt (k * v) zero then Arith.neg (k * v) else zero) = k * (if Arith.lt v zero then Arith.neg v else zero) := by
  rw [zero_eq, (sign_scale k hk v).2, mul_ite, mul_zero, arith_neg, arith_neg, mul_neg]

/-- RSI of any stream: gains and losses scale with the stream, their ratio has no unit -/
theorem rsi_scaled (N p : Nat) {k : ℝ} (hk : 0 < k) {P Q : PS ℝ} (h : Scaled k P Q) : Scaled 1 (rsi N p P) (rsi N p Q) := by
  unfold rsi
  have hch := h.sub (h.prev 1)
  have hg := Scaled.rma N p (Scaled.map (fun v => if Arith.gt v zero then v else zero) k (pos_part_hom k hk) hch)
  have hl := Scaled.rma N p (Scaled.map (fun v => if Arith.lt v zero then Arith.neg v else zero) k (neg_part_hom k hk) hch)
  exact Scaled.map_one _ (Scaled.ratio hk.ne' hg hl)

/-- **RSI does not depend on the currency unit** -/
theorem rsi_invariant (N p : Nat) (k : ℝ) (hk : 0 < k) (x : Nat → ℝ) :
    Scaled 1 (rsi N p (input x)) (rsi N p (input (fun i => k * x i))) := rsi_scaled N p hk (.input k x)

/-- **Stochastic RSI does not depend on the currency unit** -/
theorem stochasticRsi_invariant (N p : Nat) (k : ℝ) (hk : 0 < k) (x : Nat → ℝ) :
    let r := rsi N p (input x)
    let r' := rsi N p (input (fun i => k * x i))
    Scaled 1 ((r - mmin p r) / (mmax p r - mmin p r)) ((r' - mmin p r') / (mmax p r' - mmin p r')) := by
  intro r r'
  have h := rsi_invariant N p k hk x
  exact Scaled.ratio one_ne_zero (Scaled.sub h (Scaled.mmin p zero_le_one h))
    (Scaled.sub (Scaled.mmax p zero_le_one h) (Scaled.mmin p zero_le_one h))

/-- selecting the raw money flow by the sign of its change is homogeneous in (price · volume) -/
theorem select_hom (c : ℝ) (hc : 0 < c) (d r : ℝ) :
    (if Arith.gt (c * d) zero then c * r else zero) = c * (if Arith.gt d zero then r else zero) ∧
    (if Arith.lt (c * d) zero then c * r else zero) = c * (if Arith.lt d zero then r else zero) := by
  rw [zero_eq, (sign_scale c hc d).1, (sign_scale c hc d).2, mul_ite, mul_ite, mul_zero]; exact ⟨rfl, rfl⟩

/-- **MFI does not depend on the currency unit nor on the volume unit** -/
theorem mfi_invariant (p : Nat) (k kv : ℝ) (hk : 0 < k) (hv : 0 < kv) (h l c v : Nat → ℝ) :
    let mfi := fun (h l c v : Nat → ℝ) =>
      let raw := typicalPrice (input h) (input l) (input c) * input v
      let ch := raw - prev 1 raw
      let pos := msum p (map2 (fun d r => if Arith.gt d zero then r else zero) ch raw)
      let neg := msum p (map2 (fun d r => if Arith.lt d zero then r else zero) ch raw)
      map (fun mr => hundred - hundred / (one + mr)) (pos / neg)
    Scaled 1 (mfi h l c v) (mfi (fun i => k * h i) (fun i => k * l i) (fun i => k * c i) (fun i => kv * v i)) := by
  intro mfi
  have hraw : Scaled (k * kv) (typicalPrice (input h) (input l) (input c) * input v)
      (typicalPrice (input fun i => k * h i) (input fun i => k * l i) (input fun i => k * c i) * input fun i => kv * v i) :=
    Scaled.mul (Scaled.over _ (Scaled.add (Scaled.add (Scaled.input k h) (Scaled.input k l)) (Scaled.input k c))) (Scaled.input kv v)
  have hch := Scaled.sub hraw (Scaled.prev 1 hraw)
  have hc : 0 < k * kv := mul_pos hk hv
  have hpos := Scaled.msum p (Scaled.map2 (fun d r => if Arith.gt d zero then r else zero) (fun a b => (select_hom (k * kv) hc a b).1) hch hraw)
  have hneg := Scaled.msum p (Scaled.map2 (fun d r => if Arith.lt d zero then r else zero) (fun a b => (select_hom (k * kv) hc a b).2) hch hraw)
  exact Scaled.map_one _ (Scaled.ratio hc.ne' hpos hneg)

/-- **VPT scales with the volume unit and does not depend on the currency unit** -/
theorem vpt_scaled (N : Nat) (k kv : ℝ) (hk : 0 < k) (x : Nat → Nat → ℝ) :
    ∃ P Q, formulas N "Vpt" [] [] x = some [P] ∧
      formulas N "Vpt" [] [] (fun j i => (match j with | 1 => kv | _ => k) * x j i) = some [Q] ∧ Scaled kv P Q := by
  have h0 := Scaled.input k (x 0)
  -- the increment V·(C − C₋₁)/C₋₁ has the unit of the volume: kv·k/k
  have hP := (((Scaled.input kv (x 1)).mul (h0.sub (h0.prev 1))).div (h0.prev 1)).cast (mul_div_cancel_right₀ kv hk.ne')
  exact ⟨_, _, rfl, rfl, Scaled.cumulSum N 1 _ _ hP.val_eq⟩

/-- the position of the window extreme does not change when the stream is multiplied by a positive factor -/
theorem sinceExtreme_invariant (p : Nat) (pick : List ℝ → ℝ) (k : ℝ) (hk : 0 < k)
    (hpick : ∀ l : List ℝ, pick (l.map (fun v => k * v)) = k * pick l) (P Q : PS ℝ) (h : Scaled k P Q) :
    Scaled 1 (sinceExtreme p pick P) (sinceExtreme p pick Q) := by
  refine ⟨by show Q.start + _ = P.start + _; rw [h.1], fun i => ?_⟩
  simp only [sinceExtreme, one_mul]
  rw [Scaled.window_scaled h, hpick]
  congr 2
  apply List.find?_congr
  intro d _
  simp only [h.2]
  have : (k * P.val (i - d) = k * pick (window p P.val i)) ↔ (P.val (i - d) = pick (window p P.val i)) :=
    ⟨fun e => mul_left_cancel₀ hk.ne' e, fun e => by rw [e]⟩
  simp only [Arith.beq, instArithReal, this]

/-- **Aroon does not depend on the currency unit** -/
theorem aroon_invariant (N p : Nat) (k : ℝ) (hk : 0 < k) (x : Nat → Nat → ℝ) :
    ∃ P1 P2 Q1 Q2, formulas N "Aroon" [p] [] x = some [P1, P2] ∧
      formulas N "Aroon" [p] [] (fun j i => k * x j i) = some [Q1, Q2] ∧ Scaled 1 P1 Q1 ∧ Scaled 1 P2 Q2 := by
  refine ⟨_, _, _, _, rfl, rfl, ?_, ?_⟩
  · have h := sinceExtreme_invariant p maxL k hk (fun l => Scaled.maxL_scaled hk.le l) _ _ (Scaled.input k (x 0))
    exact Scaled.scale _ (Scaled.over _ (Scaled.map_one _ h))
  · have h := sinceExtreme_invariant p minL k hk (fun l => Scaled.minL_scaled hk.le l) _ _ (Scaled.input k (x 1))
    exact Scaled.scale _ (Scaled.over _ (Scaled.map_one _ h))

/-! ### outcome -/

/-- `shares / k` shares at the price `k · v` are worth what `shares` are worth at `v` -/
theorem worth_scale {k : ℝ} (hk : 0 < k) (s v : ℝ) : s / k * (k * v) = s * v := by
  rw [div_mul_eq_mul_div, ← mul_assoc, mul_right_comm, mul_div_assoc, div_self hk.ne', mul_one]

/-- with every price multiplied by k > 0 the portfolio holds 1/k as many shares and is worth the same -/
theorem outcomeFrom_scale (k : ℝ) (hk : 0 < k) (values : List ℝ) (actions : List Action) (balance shares : ℝ) :
    StratOps.outcomeFrom balance (shares / k) (values.map (fun v => k * v)) actions
      = StratOps.outcomeFrom balance shares values actions := by
  induction values generalizing actions balance shares with
  | nil => simp [StratOps.outcomeFrom]
  | cons v vt ih =>
    cases actions with
    | nil => simp [StratOps.outcomeFrom]
    | cons a at_ =>
      simp only [List.map_cons, StratOps.outcomeFrom, arith_gt, arith_nat, Nat.cast_zero, Nat.cast_one, div_eq, mul_eq, add_eq, sub_eq,
        div_pos_iff_of_pos_right hk]
      split_ifs <;> dsimp only
      · rw [mul_comm k v, ← div_div, ih, mul_comm v k, worth_scale hk]
      · have := ih at_ (shares * v) 0
        rw [zero_div] at this
        rw [worth_scale hk, this, zero_mul, zero_mul]
      · rw [worth_scale hk, ih]
/-- **The outcome of a recommendation stream does not depend on the currency unit** -/
theorem outcome_scale_invariant (k : ℝ) (hk : 0 < k) (values : List ℝ) (actions : List Action) :
    StratOps.outcome (values.map (fun v => k * v)) actions = StratOps.outcome values actions := by
  have := outcomeFrom_scale k hk values actions (Arith.nat 1) (Arith.nat 0)
  simpa [StratOps.outcome] using this

end C18
