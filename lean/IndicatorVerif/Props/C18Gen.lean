import IndicatorVerif.Proofs.ScaleReal
/-
  C18 — homogeneity theorems for the documented formulas.  Each proof evaluates the registry entry (`rfl`) and follows the
  formula with the rules `PS.Scaled.*` (Proofs/ScaleReal): inputs first, shared subformulas once (`have`), outputs last.
  Every price input is multiplied by k > 0, every volume input by kv > 0 (regression abscissae are left alone);
  output j is multiplied by k^dp · kv^dv with (dp, dv) the degree the Go-vs-Go relation uses (tools/c_indicators.py DEG).
-/
set_option linter.unusedVariables false
noncomputable section
namespace C18
open PS Spec ArithReal

theorem apo_scaled (N p1 p2 : Nat) (fs : List ℝ) (k kv : ℝ) (hk : 0 < k) (hv : 0 < kv) (x : Nat → Nat → ℝ) :
    ∃ P1 Q1,
      formulas N "Apo" [p1, p2] fs x = some [P1] ∧
      formulas N "Apo" [p1, p2] fs (fun j i => k * x j i) = some [Q1] ∧
      Scaled k P1 Q1 :=
  ⟨_, _, rfl, rfl, .sub (.ema _ _ _ (.input k _)) (.ema _ _ _ (.input k _))⟩

theorem bop_scaled (N : Nat) (fs : List ℝ) (k kv : ℝ) (hk : 0 < k) (hv : 0 < kv) (x : Nat → Nat → ℝ) :
    ∃ P1 Q1,
      formulas N "Bop" [] fs x = some [P1] ∧
      formulas N "Bop" [] fs (fun j i => k * x j i) = some [Q1] ∧
      Scaled 1 P1 Q1 :=
  ⟨_, _, rfl, rfl, .ratio hk.ne' (.sub (.input k _) (.input k _)) (.sub (.input k _) (.input k _))⟩

theorem cci_scaled (N p1 : Nat) (fs : List ℝ) (k kv : ℝ) (hk : 0 < k) (hv : 0 < kv) (x : Nat → Nat → ℝ) :
    ∃ P1 Q1,
      formulas N "Cci" [p1] fs x = some [P1] ∧
      formulas N "Cci" [p1] fs (fun j i => k * x j i) = some [Q1] ∧
      Scaled 1 P1 Q1 := by
  have htp := Scaled.typicalPrice (.input k (x 0)) (.input k (x 1)) (.input k (x 2))
  have hd := htp.sub (htp.sma p1)
  exact ⟨_, _, rfl, rfl, .ratio hk.ne' hd (((hd.map_abs hk.le).sma p1).scale _)⟩

theorem dema_scaled (N p1 p2 : Nat) (fs : List ℝ) (k kv : ℝ) (hk : 0 < k) (hv : 0 < kv) (x : Nat → Nat → ℝ) :
    ∃ P1 Q1,
      formulas N "Dema" [p1, p2] fs x = some [P1] ∧
      formulas N "Dema" [p1, p2] fs (fun j i => k * x j i) = some [Q1] ∧
      Scaled k P1 Q1 := by
  have h1 := (Scaled.input k (x 0)).ema N p1 two
  exact ⟨_, _, rfl, rfl, (h1.scale _).sub (h1.ema N p2 _)⟩

theorem ema_scaled (N p1 : Nat) (fs : List ℝ) (k kv : ℝ) (hk : 0 < k) (hv : 0 < kv) (x : Nat → Nat → ℝ) :
    ∃ P1 Q1,
      formulas N "Ema" [p1] fs x = some [P1] ∧
      formulas N "Ema" [p1] fs (fun j i => k * x j i) = some [Q1] ∧
      Scaled k P1 Q1 :=
  ⟨_, _, rfl, rfl, .ema _ _ _ (.input k _)⟩

theorem envelope_scaled (N p1 p2 : Nat) (fs : List ℝ) (k kv : ℝ) (hk : 0 < k) (hv : 0 < kv) (x : Nat → Nat → ℝ) :
    ∃ P1 P2 P3 Q1 Q2 Q3,
      formulas N "Envelope" [p1, p2] fs x = some [P1, P2, P3] ∧
      formulas N "Envelope" [p1, p2] fs (fun j i => k * x j i) = some [Q1, Q2, Q3] ∧
      Scaled k P1 Q1 ∧ Scaled k P2 Q2 ∧ Scaled k P3 Q3 := by
  have hm := (Scaled.input k (x 0)).ma N (maOf p1 p2)
  exact ⟨_, _, _, _, _, _, rfl, rfl, hm.scale _, hm, hm.scale _⟩

theorem hma_scaled (N p1 : Nat) (fs : List ℝ) (k kv : ℝ) (hk : 0 < k) (hv : 0 < kv) (x : Nat → Nat → ℝ) :
    ∃ P1 Q1,
      formulas N "Hma" [p1] fs x = some [P1] ∧
      formulas N "Hma" [p1] fs (fun j i => k * x j i) = some [Q1] ∧
      Scaled k P1 Q1 :=
  ⟨_, _, rfl, rfl, .hma _ (.input k _)⟩

/-- the raw stochastic value `(C − lowest low) / (highest high − lowest low)`, a ratio of price differences -/
theorem rsv_scaled (p : Nat) (a : ℝ) {k : ℝ} (hk : 0 < k) (x : Nat → Nat → ℝ) :
    Scaled 1 (scale a ((input (x 2) - mmin p (input (x 1))) / (mmax p (input (x 0)) - mmin p (input (x 1)))))
      (scale a ((input (fun i => k * x 2 i) - mmin p (input (fun i => k * x 1 i))) /
        (mmax p (input (fun i => k * x 0 i)) - mmin p (input (fun i => k * x 1 i))))) :=
  have hl := (Scaled.input k (x 1)).mmin p hk.le
  .scale _ (.ratio hk.ne' ((Scaled.input k (x 2)).sub hl) (((Scaled.input k (x 0)).mmax p hk.le).sub hl))

theorem kdj_scaled (N p1 p2 p3 : Nat) (fs : List ℝ) (k kv : ℝ) (hk : 0 < k) (hv : 0 < kv) (x : Nat → Nat → ℝ) :
    ∃ P1 P2 P3 Q1 Q2 Q3,
      formulas N "Kdj" [p1, p2, p3] fs x = some [P1, P2, P3] ∧
      formulas N "Kdj" [p1, p2, p3] fs (fun j i => k * x j i) = some [Q1, Q2, Q3] ∧
      Scaled 1 P1 Q1 ∧ Scaled 1 P2 Q2 ∧ Scaled 1 P3 Q3 := by
  have hK := (rsv_scaled p1 hundred hk x).sma p2
  have hD := hK.sma p3
  exact ⟨_, _, _, _, _, _, rfl, rfl, hD.from_start hK, hD, (hK.scale _).sub (hD.scale _)⟩

theorem macd_scaled (N p1 p2 p3 : Nat) (fs : List ℝ) (k kv : ℝ) (hk : 0 < k) (hv : 0 < kv) (x : Nat → Nat → ℝ) :
    ∃ P1 P2 Q1 Q2,
      formulas N "Macd" [p1, p2, p3] fs x = some [P1, P2] ∧
      formulas N "Macd" [p1, p2, p3] fs (fun j i => k * x j i) = some [Q1, Q2] ∧
      Scaled k P1 Q1 ∧ Scaled k P2 Q2 := by
  have hm := ((Scaled.input k (x 0)).ema N p1 two).sub ((Scaled.input k (x 0)).ema N p2 two)
  have hs := hm.ema N p3 two
  exact ⟨_, _, _, _, rfl, rfl, hs.from_start hm, hs⟩

theorem massIndex_scaled (N p1 p2 p3 : Nat) (fs : List ℝ) (k kv : ℝ) (hk : 0 < k) (hv : 0 < kv) (x : Nat → Nat → ℝ) :
    ∃ P1 Q1,
      formulas N "MassIndex" [p1, p2, p3] fs x = some [P1] ∧
      formulas N "MassIndex" [p1, p2, p3] fs (fun j i => k * x j i) = some [Q1] ∧
      Scaled 1 P1 Q1 := by
  have h1 := ((Scaled.input k (x 0)).sub (.input k (x 1))).ema N p1 two
  exact ⟨_, _, rfl, rfl, (Scaled.ratio hk.ne' h1 (h1.ema N p2 two)).msum p3⟩

theorem mlr_scaled (N p1 : Nat) (fs : List ℝ) (k kv : ℝ) (hk : 0 < k) (hv : 0 < kv) (x : Nat → Nat → ℝ) :
    ∃ P1 Q1,
      formulas N "Mlr" [p1] fs x = some [P1] ∧
      formulas N "Mlr" [p1] fs (fun j i => (match j with | 0 => 1 | _ => k) * x j i) = some [Q1] ∧
      Scaled k P1 Q1 := by
  have hx := Scaled.input_one (x 0)
  have hy := Scaled.input k (x 1)
  exact ⟨_, _, rfl, rfl, (((hx.mlsM p1 hy).mul hx).cast (mul_one k)).add (hx.mlsB p1 hy)⟩

theorem mls_scaled (N p1 : Nat) (fs : List ℝ) (k kv : ℝ) (hk : 0 < k) (hv : 0 < kv) (x : Nat → Nat → ℝ) :
    ∃ P1 P2 Q1 Q2,
      formulas N "Mls" [p1] fs x = some [P1, P2] ∧
      formulas N "Mls" [p1] fs (fun j i => (match j with | 0 => 1 | _ => k) * x j i) = some [Q1, Q2] ∧
      Scaled k P1 Q1 ∧ Scaled k P2 Q2 :=
  ⟨_, _, _, _, rfl, rfl, .mlsM _ (.input_one _) (.input k _), .mlsB _ (.input_one _) (.input k _)⟩

theorem movingMax_scaled (N p1 : Nat) (fs : List ℝ) (k kv : ℝ) (hk : 0 < k) (hv : 0 < kv) (x : Nat → Nat → ℝ) :
    ∃ P1 Q1,
      formulas N "MovingMax" [p1] fs x = some [P1] ∧
      formulas N "MovingMax" [p1] fs (fun j i => k * x j i) = some [Q1] ∧
      Scaled k P1 Q1 :=
  ⟨_, _, rfl, rfl, .mmax _ hk.le (.input k _)⟩

theorem movingMin_scaled (N p1 : Nat) (fs : List ℝ) (k kv : ℝ) (hk : 0 < k) (hv : 0 < kv) (x : Nat → Nat → ℝ) :
    ∃ P1 Q1,
      formulas N "MovingMin" [p1] fs x = some [P1] ∧
      formulas N "MovingMin" [p1] fs (fun j i => k * x j i) = some [Q1] ∧
      Scaled k P1 Q1 :=
  ⟨_, _, rfl, rfl, .mmin _ hk.le (.input k _)⟩

theorem movingSum_scaled (N p1 : Nat) (fs : List ℝ) (k kv : ℝ) (hk : 0 < k) (hv : 0 < kv) (x : Nat → Nat → ℝ) :
    ∃ P1 Q1,
      formulas N "MovingSum" [p1] fs x = some [P1] ∧
      formulas N "MovingSum" [p1] fs (fun j i => k * x j i) = some [Q1] ∧
      Scaled k P1 Q1 :=
  ⟨_, _, rfl, rfl, .msum _ (.input k _)⟩

theorem rma_scaled (N p1 : Nat) (fs : List ℝ) (k kv : ℝ) (hk : 0 < k) (hv : 0 < kv) (x : Nat → Nat → ℝ) :
    ∃ P1 Q1,
      formulas N "Rma" [p1] fs x = some [P1] ∧
      formulas N "Rma" [p1] fs (fun j i => k * x j i) = some [Q1] ∧
      Scaled k P1 Q1 :=
  ⟨_, _, rfl, rfl, .rma _ _ (.input k _)⟩

theorem sma_scaled (N p1 : Nat) (fs : List ℝ) (k kv : ℝ) (hk : 0 < k) (hv : 0 < kv) (x : Nat → Nat → ℝ) :
    ∃ P1 Q1,
      formulas N "Sma" [p1] fs x = some [P1] ∧
      formulas N "Sma" [p1] fs (fun j i => k * x j i) = some [Q1] ∧
      Scaled k P1 Q1 :=
  ⟨_, _, rfl, rfl, .sma _ (.input k _)⟩

theorem smma_scaled (N p1 : Nat) (fs : List ℝ) (k kv : ℝ) (hk : 0 < k) (hv : 0 < kv) (x : Nat → Nat → ℝ) :
    ∃ P1 Q1,
      formulas N "Smma" [p1] fs x = some [P1] ∧
      formulas N "Smma" [p1] fs (fun j i => k * x j i) = some [Q1] ∧
      Scaled k P1 Q1 :=
  ⟨_, _, rfl, rfl, .smma _ _ (.input k _)⟩

theorem tema_scaled (N p1 p2 p3 : Nat) (fs : List ℝ) (k kv : ℝ) (hk : 0 < k) (hv : 0 < kv) (x : Nat → Nat → ℝ) :
    ∃ P1 Q1,
      formulas N "Tema" [p1, p2, p3] fs x = some [P1] ∧
      formulas N "Tema" [p1, p2, p3] fs (fun j i => k * x j i) = some [Q1] ∧
      Scaled k P1 Q1 := by
  have h1 := (Scaled.input k (x 0)).ema N p1 two
  have h2 := h1.ema N p2 two
  exact ⟨_, _, rfl, rfl, ((h1.scale _).sub (h2.scale _)).add (h2.ema N p3 two)⟩

theorem trima_scaled (N p1 : Nat) (fs : List ℝ) (k kv : ℝ) (hk : 0 < k) (hv : 0 < kv) (x : Nat → Nat → ℝ) :
    ∃ P1 Q1,
      formulas N "Trima" [p1] fs x = some [P1] ∧
      formulas N "Trima" [p1] fs (fun j i => k * x j i) = some [Q1] ∧
      Scaled k P1 Q1 :=
  ⟨_, _, rfl, rfl, .ite _ (.sma _ (.sma _ (.input k _))) (.sma _ (.sma _ (.input k _)))⟩

theorem trix_scaled (N p1 : Nat) (fs : List ℝ) (k kv : ℝ) (hk : 0 < k) (hv : 0 < kv) (x : Nat → Nat → ℝ) :
    ∃ P1 Q1,
      formulas N "Trix" [p1] fs x = some [P1] ∧
      formulas N "Trix" [p1] fs (fun j i => k * x j i) = some [Q1] ∧
      Scaled 1 P1 Q1 := by
  have h3 := (((Scaled.input k (x 0)).ema N p1 two).ema N p1 two).ema N p1 two
  exact ⟨_, _, rfl, rfl, .ratio hk.ne' (h3.sub (h3.prev 1)) (h3.prev 1)⟩

theorem tsi_scaled (N p1 p2 : Nat) (fs : List ℝ) (k kv : ℝ) (hk : 0 < k) (hv : 0 < kv) (x : Nat → Nat → ℝ) :
    ∃ P1 Q1,
      formulas N "Tsi" [p1, p2] fs x = some [P1] ∧
      formulas N "Tsi" [p1, p2] fs (fun j i => k * x j i) = some [Q1] ∧
      Scaled 1 P1 Q1 := by
  have hch := (Scaled.input k (x 0)).sub ((Scaled.input k (x 0)).prev 1)
  exact ⟨_, _, rfl, rfl, .scale _ (.ratio hk.ne' ((hch.ema N p1 two).ema N p2 two) (((hch.map_abs hk.le).ema N p1 two).ema N p2 two))⟩

theorem typicalPrice_scaled (N : Nat) (fs : List ℝ) (k kv : ℝ) (hk : 0 < k) (hv : 0 < kv) (x : Nat → Nat → ℝ) :
    ∃ P1 Q1,
      formulas N "TypicalPrice" [] fs x = some [P1] ∧
      formulas N "TypicalPrice" [] fs (fun j i => k * x j i) = some [Q1] ∧
      Scaled k P1 Q1 :=
  ⟨_, _, rfl, rfl, .typicalPrice (.input k _) (.input k _) (.input k _)⟩

theorem vwma_scaled (N p1 : Nat) (fs : List ℝ) (k kv : ℝ) (hk : 0 < k) (hv : 0 < kv) (x : Nat → Nat → ℝ) :
    ∃ P1 Q1,
      formulas N "Vwma" [p1] fs x = some [P1] ∧
      formulas N "Vwma" [p1] fs (fun j i => (match j with | 1 => kv | _ => k) * x j i) = some [Q1] ∧
      Scaled k P1 Q1 := by
  have hw := (Scaled.input kv (x 1)).msum p1
  exact ⟨_, _, rfl, rfl, ((((Scaled.input k (x 0)).mul (.input kv (x 1))).msum p1).div hw).cast (mul_div_cancel_right₀ k hv.ne')⟩

theorem weightedClose_scaled (N : Nat) (fs : List ℝ) (k kv : ℝ) (hk : 0 < k) (hv : 0 < kv) (x : Nat → Nat → ℝ) :
    ∃ P1 Q1,
      formulas N "WeightedClose" [] fs x = some [P1] ∧
      formulas N "WeightedClose" [] fs (fun j i => k * x j i) = some [Q1] ∧
      Scaled k P1 Q1 :=
  ⟨_, _, rfl, rfl, .over _ (.add (.add (.input k _) (.input k _)) (.scale _ (.input k _)))⟩

theorem wma_scaled (N p1 : Nat) (fs : List ℝ) (k kv : ℝ) (hk : 0 < k) (hv : 0 < kv) (x : Nat → Nat → ℝ) :
    ∃ P1 Q1,
      formulas N "Wma" [p1] fs x = some [P1] ∧
      formulas N "Wma" [p1] fs (fun j i => k * x j i) = some [Q1] ∧
      Scaled k P1 Q1 :=
  ⟨_, _, rfl, rfl, .wma _ (.input k _)⟩

theorem awesomeOscillator_scaled (N p1 p2 : Nat) (fs : List ℝ) (k kv : ℝ) (hk : 0 < k) (hv : 0 < kv) (x : Nat → Nat → ℝ) :
    ∃ P1 Q1,
      formulas N "AwesomeOscillator" [p1, p2] fs x = some [P1] ∧
      formulas N "AwesomeOscillator" [p1, p2] fs (fun j i => k * x j i) = some [Q1] ∧
      Scaled k P1 Q1 := by
  have hm := ((Scaled.input k (x 0)).add (.input k (x 1))).over two
  exact ⟨_, _, rfl, rfl, (hm.sma p1).sub (hm.sma p2)⟩

theorem chaikinOscillator_scaled (N p1 p2 : Nat) (fs : List ℝ) (k kv : ℝ) (hk : 0 < k) (hv : 0 < kv) (x : Nat → Nat → ℝ) :
    ∃ P1 P2 Q1 Q2,
      formulas N "ChaikinOscillator" [p1, p2] fs x = some [P1, P2] ∧
      formulas N "ChaikinOscillator" [p1, p2] fs (fun j i => (match j with | 3 => kv | _ => k) * x j i) = some [Q1, Q2] ∧
      Scaled kv P1 Q1 ∧ Scaled kv P2 Q2 := by
  have ha := Scaled.ad N hk.ne' (.input k (x 0)) (.input k (x 1)) (.input k (x 2)) (.input kv (x 3))
  have hco := (ha.ema N p1 two).sub (ha.ema N p2 two)
  exact ⟨_, _, _, _, rfl, rfl, hco, hco.from_start ha⟩

theorem ichimokuCloud_scaled (N p1 p2 p3 p4 : Nat) (fs : List ℝ) (k kv : ℝ) (hk : 0 < k) (hv : 0 < kv) (x : Nat → Nat → ℝ) :
    ∃ P1 P2 P3 P4 P5 Q1 Q2 Q3 Q4 Q5,
      formulas N "IchimokuCloud" [p1, p2, p3, p4] fs x = some [P1, P2, P3, P4, P5] ∧
      formulas N "IchimokuCloud" [p1, p2, p3, p4] fs (fun j i => k * x j i) = some [Q1, Q2, Q3, Q4, Q5] ∧
      Scaled k P1 Q1 ∧ Scaled k P2 Q2 ∧ Scaled k P3 Q3 ∧ Scaled k P4 Q4 ∧ Scaled k P5 Q5 := by
  have mid := fun p => (((Scaled.input k (x 0)).mmax p hk.le).add ((Scaled.input k (x 1)).mmin p hk.le)).over two
  have hB := mid p3
  exact ⟨_, _, _, _, _, _, _, _, _, _, rfl, rfl, hB.from_start (mid p1), hB.from_start (mid p2),
    hB.from_start (((mid p1).add (mid p2)).over two), hB, hB.from_start ((Scaled.input k (x 2)).prev p4)⟩

theorem ppo_scaled (N p1 p2 p3 : Nat) (fs : List ℝ) (k kv : ℝ) (hk : 0 < k) (hv : 0 < kv) (x : Nat → Nat → ℝ) :
    ∃ P1 P2 P3 Q1 Q2 Q3,
      formulas N "Ppo" [p1, p2, p3] fs x = some [P1, P2, P3] ∧
      formulas N "Ppo" [p1, p2, p3] fs (fun j i => k * x j i) = some [Q1, Q2, Q3] ∧
      Scaled 1 P1 Q1 ∧ Scaled 1 P2 Q2 ∧ Scaled 1 P3 Q3 := by
  have h0 := Scaled.input k (x 0)
  have hp := (Scaled.ratio hk.ne' ((h0.ema N p1 two).sub (h0.ema N p2 two)) (h0.ema N p2 two)).scale hundred
  have hs := hp.ema N p3 two
  exact ⟨_, _, _, _, _, _, rfl, rfl, hs.from_start hp, hs, hp.sub hs⟩

theorem pvo_scaled (N p1 p2 p3 : Nat) (fs : List ℝ) (k kv : ℝ) (hk : 0 < k) (hv : 0 < kv) (x : Nat → Nat → ℝ) :
    ∃ P1 P2 P3 Q1 Q2 Q3,
      formulas N "Pvo" [p1, p2, p3] fs x = some [P1, P2, P3] ∧
      formulas N "Pvo" [p1, p2, p3] fs (fun j i => kv * x j i) = some [Q1, Q2, Q3] ∧
      Scaled 1 P1 Q1 ∧ Scaled 1 P2 Q2 ∧ Scaled 1 P3 Q3 :=
  ppo_scaled N p1 p2 p3 fs kv k hv hk x

theorem qstick_scaled (N p1 : Nat) (fs : List ℝ) (k kv : ℝ) (hk : 0 < k) (hv : 0 < kv) (x : Nat → Nat → ℝ) :
    ∃ P1 Q1,
      formulas N "Qstick" [p1] fs x = some [P1] ∧
      formulas N "Qstick" [p1] fs (fun j i => k * x j i) = some [Q1] ∧
      Scaled k P1 Q1 :=
  ⟨_, _, rfl, rfl, .sma _ (.sub (.input k _) (.input k _))⟩

theorem stochasticOscillator_scaled (N p1 p2 : Nat) (fs : List ℝ) (k kv : ℝ) (hk : 0 < k) (hv : 0 < kv) (x : Nat → Nat → ℝ) :
    ∃ P1 P2 Q1 Q2,
      formulas N "StochasticOscillator" [p1, p2] fs x = some [P1, P2] ∧
      formulas N "StochasticOscillator" [p1, p2] fs (fun j i => k * x j i) = some [Q1, Q2] ∧
      Scaled 1 P1 Q1 ∧ Scaled 1 P2 Q2 := by
  have hK := rsv_scaled p1 hundred hk x
  have hD := hK.sma p2
  exact ⟨_, _, _, _, rfl, rfl, hD.from_start hK, hD⟩

theorem williamsR_scaled (N p1 : Nat) (fs : List ℝ) (k kv : ℝ) (hk : 0 < k) (hv : 0 < kv) (x : Nat → Nat → ℝ) :
    ∃ P1 Q1,
      formulas N "WilliamsR" [p1] fs x = some [P1] ∧
      formulas N "WilliamsR" [p1] fs (fun j i => k * x j i) = some [Q1] ∧
      Scaled 1 P1 Q1 := by
  have hh := (Scaled.input k (x 0)).mmax p1 hk.le
  exact ⟨_, _, rfl, rfl, .scale _ (.ratio hk.ne' (hh.sub (.input k _)) (hh.sub (.mmin _ hk.le (.input k _))))⟩

theorem accelerationBands_scaled (N p1 : Nat) (fs : List ℝ) (k kv : ℝ) (hk : 0 < k) (hv : 0 < kv) (x : Nat → Nat → ℝ) :
    ∃ P1 P2 P3 Q1 Q2 Q3,
      formulas N "AccelerationBands" [p1] fs x = some [P1, P2, P3] ∧
      formulas N "AccelerationBands" [p1] fs (fun j i => k * x j i) = some [Q1, Q2, Q3] ∧
      Scaled k P1 Q1 ∧ Scaled k P2 Q2 ∧ Scaled k P3 Q3 := by
  have h0 := Scaled.input k (x 0)
  have h1 := Scaled.input k (x 1)
  have hr := Scaled.ratio hk.ne' (h0.sub h1) (h0.add h1)
  exact ⟨_, _, _, _, _, _, rfl, rfl, .sma _ (.cast (.mul h0 (.map_one _ (hr.scale _))) (mul_one k)), .sma _ (.input k _),
    .sma _ (.cast (.mul h1 (.map_one _ hr)) (mul_one k))⟩

theorem atr_scaled (N p1 p2 : Nat) (fs : List ℝ) (k kv : ℝ) (hk : 0 < k) (hv : 0 < kv) (x : Nat → Nat → ℝ) :
    ∃ P1 Q1,
      formulas N "Atr" [p1, p2] fs x = some [P1] ∧
      formulas N "Atr" [p1, p2] fs (fun j i => k * x j i) = some [Q1] ∧
      Scaled k P1 Q1 :=
  ⟨_, _, rfl, rfl, .atr N _ hk.le (.input k _) (.input k _) (.input k _)⟩

theorem bollingerBandWidth_scaled (N p1 : Nat) (fs : List ℝ) (k kv : ℝ) (hk : 0 < k) (hv : 0 < kv) (x : Nat → Nat → ℝ) :
    ∃ P1 Q1,
      formulas N "BollingerBandWidth" [p1] fs x = some [P1] ∧
      formulas N "BollingerBandWidth" [p1] fs (fun j i => k * x j i) = some [Q1] ∧
      Scaled 1 P1 Q1 := by
  have h0 := Scaled.input k (x 0)
  exact ⟨_, _, rfl, rfl, .ratio hk.ne' ((h0.bbUpper p1 hk.le).sub (h0.bbLower p1 hk.le)) (h0.sma p1)⟩

theorem bollingerBands_scaled (N p1 : Nat) (fs : List ℝ) (k kv : ℝ) (hk : 0 < k) (hv : 0 < kv) (x : Nat → Nat → ℝ) :
    ∃ P1 P2 P3 Q1 Q2 Q3,
      formulas N "BollingerBands" [p1] fs x = some [P1, P2, P3] ∧
      formulas N "BollingerBands" [p1] fs (fun j i => k * x j i) = some [Q1, Q2, Q3] ∧
      Scaled k P1 Q1 ∧ Scaled k P2 Q2 ∧ Scaled k P3 Q3 :=
  ⟨_, _, _, _, _, _, rfl, rfl, .bbUpper _ hk.le (.input k _), .sma _ (.input k _), .bbLower _ hk.le (.input k _)⟩

theorem chandelierExit_scaled (N p1 : Nat) (fs : List ℝ) (k kv : ℝ) (hk : 0 < k) (hv : 0 < kv) (x : Nat → Nat → ℝ) :
    ∃ P1 P2 Q1 Q2,
      formulas N "ChandelierExit" [p1] fs x = some [P1, P2] ∧
      formulas N "ChandelierExit" [p1] fs (fun j i => k * x j i) = some [Q1, Q2] ∧
      Scaled k P1 Q1 ∧ Scaled k P2 Q2 := by
  have ha := (Scaled.atr N (.sma p1) hk.le (.input k (x 0)) (.input k (x 1)) (.input k (x 2))).scale (fs.getD 0 zero)
  exact ⟨_, _, _, _, rfl, rfl, .sub (.mmax _ hk.le (.input k _)) ha, .add (.mmin _ hk.le (.input k _)) ha⟩

theorem donchianChannel_scaled (N p1 : Nat) (fs : List ℝ) (k kv : ℝ) (hk : 0 < k) (hv : 0 < kv) (x : Nat → Nat → ℝ) :
    ∃ P1 P2 P3 Q1 Q2 Q3,
      formulas N "DonchianChannel" [p1] fs x = some [P1, P2, P3] ∧
      formulas N "DonchianChannel" [p1] fs (fun j i => k * x j i) = some [Q1, Q2, Q3] ∧
      Scaled k P1 Q1 ∧ Scaled k P2 Q2 ∧ Scaled k P3 Q3 := by
  have hM := (Scaled.input k (x 0)).mmax p1 hk.le
  have hm := (Scaled.input k (x 0)).mmin p1 hk.le
  exact ⟨_, _, _, _, _, _, rfl, rfl, hM, (hM.add hm).over _, hm⟩

theorem keltnerChannel_scaled (N p1 : Nat) (fs : List ℝ) (k kv : ℝ) (hk : 0 < k) (hv : 0 < kv) (x : Nat → Nat → ℝ) :
    ∃ P1 P2 P3 Q1 Q2 Q3,
      formulas N "KeltnerChannel" [p1] fs x = some [P1, P2, P3] ∧
      formulas N "KeltnerChannel" [p1] fs (fun j i => k * x j i) = some [Q1, Q2, Q3] ∧
      Scaled k P1 Q1 ∧ Scaled k P2 Q2 ∧ Scaled k P3 Q3 := by
  have ha := (Scaled.atr N (.sma p1) hk.le (.input k (x 0)) (.input k (x 1)) (.input k (x 2))).scale two
  have hm := (Scaled.input k (x 2)).ema N p1 two
  exact ⟨_, _, _, _, _, _, rfl, rfl, hm.add ha, ha.from_start hm, hm.sub ha⟩

theorem movingStd_scaled (N p1 : Nat) (fs : List ℝ) (k kv : ℝ) (hk : 0 < k) (hv : 0 < kv) (x : Nat → Nat → ℝ) :
    ∃ P1 Q1,
      formulas N "MovingStd" [p1] fs x = some [P1] ∧
      formulas N "MovingStd" [p1] fs (fun j i => k * x j i) = some [Q1] ∧
      Scaled k P1 Q1 :=
  ⟨_, _, rfl, rfl, .mstd _ hk.le (.input k _)⟩

theorem percentB_scaled (N p1 : Nat) (fs : List ℝ) (k kv : ℝ) (hk : 0 < k) (hv : 0 < kv) (x : Nat → Nat → ℝ) :
    ∃ P1 Q1,
      formulas N "PercentB" [p1] fs x = some [P1] ∧
      formulas N "PercentB" [p1] fs (fun j i => k * x j i) = some [Q1] ∧
      Scaled 1 P1 Q1 := by
  have h0 := Scaled.input k (x 0)
  have hl := h0.bbLower p1 hk.le
  exact ⟨_, _, rfl, rfl, .ratio hk.ne' (h0.sub hl) ((h0.bbUpper p1 hk.le).sub hl)⟩

theorem ulcerIndex_scaled (N p1 : Nat) (fs : List ℝ) (k kv : ℝ) (hk : 0 < k) (hv : 0 < kv) (x : Nat → Nat → ℝ) :
    ∃ P1 Q1,
      formulas N "UlcerIndex" [p1] fs x = some [P1] ∧
      formulas N "UlcerIndex" [p1] fs (fun j i => k * x j i) = some [Q1] ∧
      Scaled 1 P1 Q1 := by
  have h0 := Scaled.input k (x 0)
  have hh := h0.mmax p1 hk.le
  have hpd := (Scaled.ratio hk.ne' (h0.sub hh) hh).scale hundred
  exact ⟨_, _, rfl, rfl, .map_one _ (((hpd.mul hpd).cast (one_mul 1)).sma p1)⟩

theorem ad_scaled (N : Nat) (fs : List ℝ) (k kv : ℝ) (hk : 0 < k) (hv : 0 < kv) (x : Nat → Nat → ℝ) :
    ∃ P1 Q1,
      formulas N "Ad" [] fs x = some [P1] ∧
      formulas N "Ad" [] fs (fun j i => (match j with | 3 => kv | _ => k) * x j i) = some [Q1] ∧
      Scaled kv P1 Q1 :=
  ⟨_, _, rfl, rfl, .ad N hk.ne' (.input k _) (.input k _) (.input k _) (.input kv _)⟩

theorem cmf_scaled (N p1 : Nat) (fs : List ℝ) (k kv : ℝ) (hk : 0 < k) (hv : 0 < kv) (x : Nat → Nat → ℝ) :
    ∃ P1 Q1,
      formulas N "Cmf" [p1] fs x = some [P1] ∧
      formulas N "Cmf" [p1] fs (fun j i => (match j with | 3 => kv | _ => k) * x j i) = some [Q1] ∧
      Scaled 1 P1 Q1 := by
  have h3 := Scaled.input kv (x 3)
  exact ⟨_, _, rfl, rfl, .ratio hv.ne' ((Scaled.mfv hk.ne' (.input k (x 0)) (.input k (x 1)) (.input k (x 2)) h3).msum p1) (h3.msum p1)⟩

theorem emv_scaled (N p1 : Nat) (fs : List ℝ) (k kv : ℝ) (hk : 0 < k) (hv : 0 < kv) (x : Nat → Nat → ℝ) :
    ∃ P1 Q1,
      formulas N "Emv" [p1] fs x = some [P1] ∧
      formulas N "Emv" [p1] fs (fun j i => (match j with | 2 => kv | _ => k) * x j i) = some [Q1] ∧
      Scaled (k * k / kv) P1 Q1 := by
  have h0 := Scaled.input k (x 0)
  have h1 := Scaled.input k (x 1)
  have hmid := (h0.add h1).over two
  have hbox := ((Scaled.input kv (x 2)).over (Arith.nat 100000000)).div (h0.sub h1)
  exact ⟨_, _, rfl, rfl, .sma _ (((hmid.sub (hmid.prev 1)).div hbox).cast (div_div_eq_mul_div k kv k))⟩

theorem fi_scaled (N p1 : Nat) (fs : List ℝ) (k kv : ℝ) (hk : 0 < k) (hv : 0 < kv) (x : Nat → Nat → ℝ) :
    ∃ P1 Q1,
      formulas N "Fi" [p1] fs x = some [P1] ∧
      formulas N "Fi" [p1] fs (fun j i => (match j with | 1 => kv | _ => k) * x j i) = some [Q1] ∧
      Scaled (k * kv) P1 Q1 := by
  have h0 := Scaled.input k (x 0)
  exact ⟨_, _, rfl, rfl, .ema _ _ _ ((h0.sub (h0.prev 1)).mul (.input kv _))⟩

theorem mfm_scaled (N : Nat) (fs : List ℝ) (k kv : ℝ) (hk : 0 < k) (hv : 0 < kv) (x : Nat → Nat → ℝ) :
    ∃ P1 Q1,
      formulas N "Mfm" [] fs x = some [P1] ∧
      formulas N "Mfm" [] fs (fun j i => k * x j i) = some [Q1] ∧
      Scaled 1 P1 Q1 :=
  ⟨_, _, rfl, rfl, .mfm hk.ne' (.input k _) (.input k _) (.input k _)⟩

theorem mfv_scaled (N : Nat) (fs : List ℝ) (k kv : ℝ) (hk : 0 < k) (hv : 0 < kv) (x : Nat → Nat → ℝ) :
    ∃ P1 Q1,
      formulas N "Mfv" [] fs x = some [P1] ∧
      formulas N "Mfv" [] fs (fun j i => (match j with | 3 => kv | _ => k) * x j i) = some [Q1] ∧
      Scaled kv P1 Q1 :=
  ⟨_, _, rfl, rfl, .mfv hk.ne' (.input k _) (.input k _) (.input k _) (.input kv _)⟩

theorem vwap_scaled (N p1 : Nat) (fs : List ℝ) (k kv : ℝ) (hk : 0 < k) (hv : 0 < kv) (x : Nat → Nat → ℝ) :
    ∃ P1 Q1,
      formulas N "Vwap" [p1] fs x = some [P1] ∧
      formulas N "Vwap" [p1] fs (fun j i => (match j with | 1 => kv | _ => k) * x j i) = some [Q1] ∧
      Scaled k P1 Q1 :=
  vwma_scaled N p1 fs k kv hk hv x

end C18
