import IndicatorVerif.Props.C03
import IndicatorVerif.Model.NetWindow
import IndicatorVerif.Model.NetSma
/-
  C03 — the ports of the machines: which channels a machine can receive from, send to or close (ONE lemma per machine,
  for variable channel numbers), and `owned_of_ports`: a network in which every process is the reader of its input ports
  and the writer of its output ports is `Owned`.  For a concrete network the side conditions are one Boolean check per
  process, proved by `rfl` (`owned_of_ports_chk`); for a network with symbolic process numbers use `owned_of_ports`.
  Core-only.
-/
namespace C03
open Net NetM

variable {L V : Type}

/-- the operation receives only from a channel in `ins`, sends to / closes only a channel in `outs` -/
def Act.Within (ins outs : List Nat) : Act L V → Prop
  | .recv c _ => c ∈ ins
  | .send c _ _ => c ∈ outs
  | .close c _ => c ∈ outs
  | .halt => True

/-- the machine `m` receives only from channels in `ins`, sends to / closes only channels in `outs` -/
def Ports (m : L → Act L V) (ins outs : List Nat) : Prop := ∀ l, Act.Within ins outs (m l)

theorem Ports.recv {m : L → Act L V} {ins outs : List Nat} (h : Ports m ins outs) {l : L} {c : Nat} {k : Option V → L}
    (e : m l = .recv c k) : c ∈ ins := by have := h l; rwa [e] at this
theorem Ports.send {m : L → Act L V} {ins outs : List Nat} (h : Ports m ins outs) {l : L} {c : Nat} {v : V} {k : L}
    (e : m l = .send c v k) : c ∈ outs := by have := h l; rwa [e] at this
theorem Ports.close {m : L → Act L V} {ins outs : List Nat} (h : Ports m ins outs) {l : L} {c : Nat} {k : L}
    (e : m l = .close c k) : c ∈ outs := by have := h l; rwa [e] at this

/-- a network in which every process is the reader of its input ports and the writer of its output ports is `Owned` -/
theorem owned_of_ports (N : Network L V)
    (h : ∀ p, ∃ ins outs, Ports (N.act p) ins outs ∧ (∀ c ∈ ins, N.rd c = p) ∧ (∀ c ∈ outs, N.wr c = p)) :
    Owned N where
  recv_owner p _ c _ e := let ⟨_, _, hp, hi, _⟩ := h p; hi c (hp.recv e)
  send_owner p _ c _ _ e := let ⟨_, _, hp, _, ho⟩ := h p; ho c (hp.send e)
  close_owner p _ c _ e := let ⟨_, _, hp, _, ho⟩ := h p; ho c (hp.close e)

theorem halt_ports : Ports (fun _ : L => (Act.halt : Act L V)) [] [] := fun _ => trivial

theorem ite_ports {m m' : L → Act L V} {ins outs : List Nat} (b : Prop) [Decidable b]
    (h : Ports m ins outs) (h' : Ports m' ins outs) : Ports (fun l => if b then m l else m' l) ins outs := by
  intro l; dsimp only; split
  · exact h l
  · exact h' l

/-- process `p` is the reader of every channel in `ins` and the writer of every channel in `outs`; a Boolean, so that for a
    concrete network `rfl` proves `owns N p ins outs = true` -/
def owns (N : Network L V) (p : Nat) (ins outs : List Nat) : Bool :=
  ins.all (fun c => N.rd c == p) && outs.all (fun c => N.wr c == p)

/-- `owned_of_ports` with the two side conditions as one Boolean check -/
theorem owned_of_ports_chk (N : Network L V)
    (h : ∀ p, ∃ ins outs, Ports (N.act p) ins outs ∧ owns N p ins outs = true) : Owned N := by
  refine owned_of_ports N fun p => ?_
  obtain ⟨ins, outs, hp, hc⟩ := h p
  simp only [owns, Bool.and_eq_true, List.all_eq_true, beq_iff_eq] at hc
  exact ⟨ins, outs, hp, hc.1, hc.2⟩

/-! ### one lemma per machine -/

theorem producer_ports (o : Nat) : Ports (producer o) [] [o] := by
  intro l; unfold producer; (repeat' split) <;> simp [Act.Within]
theorem dup2_ports (i a b : Nat) : Ports (dup2 i a b) [i] [a, b] := by
  intro l; unfold dup2; (repeat' split) <;> simp [Act.Within]
theorem operateOld_ports (a b o : Nat) : Ports (operateOld a b o) [a, b] [o] := by
  intro l; unfold operateOld; (repeat' split) <;> simp [Act.Within]
theorem operateNew_ports (a b o : Nat) : Ports (operateNew a b o) [a, b] [o] := by
  intro l; unfold operateNew; (repeat' split) <;> simp [Act.Within]
theorem sink_ports (i : Nat) : Ports (sink i) [i] [] := by
  intro l; unfold sink; (repeat' split) <;> simp [Act.Within]
theorem pipe_ports (i o : Nat) : Ports (pipe i o) [i] [o] := by
  intro l; unfold pipe; (repeat' split) <;> simp [Act.Within]
theorem skipM_ports (i o : Nat) : Ports (skipM i o) [i] [o] := by
  intro l; unfold skipM; (repeat' split) <;> simp [Act.Within]
theorem subtractNew_ports (a b o : Nat) : Ports (subtractNew a b o) [a, b] [o] := by
  intro l; unfold subtractNew; (repeat' split) <;> simp [Act.Within]
theorem shiftM_ports (i o : Nat) : Ports (shiftM i o) [i] [o] := by
  intro l; unfold shiftM; (repeat' split) <;> simp [Act.Within]
theorem sumOp_ports (a b o : Nat) : Ports (sumOp a b o) [a, b] [o] := by
  intro l; unfold sumOp; (repeat' split) <;> simp [Act.Within]
theorem headM_ports (i o : Nat) : Ports (headM i o) [i] [o] := by
  intro l; unfold headM; (repeat' split) <;> simp [Act.Within]
theorem seedBox_ports (p : Nat) (seed : List Int → Int) (i o : Nat) : Ports (seedBox p seed i o) [i] [o] := by
  intro l; unfold seedBox; (repeat' split) <;> simp [Act.Within]
theorem recurMain_ports (upd : Int → Int → Int) (s i o : Nat) : Ports (recurMain upd s i o) [s, i] [o] := by
  intro l; unfold recurMain; (repeat' split) <;> simp [Act.Within]
theorem winOp_ports (f : List Int → Int → Int → List Int × Int) (a b o : Nat) : Ports (winOp f a b o) [a, b] [o] := by
  intro l; unfold winOp; (repeat' split) <;> simp [Act.Within]
theorem mapM_ports (f : Int → Int) (i o : Nat) : Ports (mapM f i o) [i] [o] := by
  intro l; unfold mapM; (repeat' split) <;> simp [Act.Within]

/-! ### the machines at their branching states -/

theorem shiftM_fill (i o m : Nat) : shiftM i o ⟨0, [((m + 1 : Nat) : Int)]⟩ = .send o 0 ⟨0, [(m : Int)]⟩ := by
  have h : ¬ ((m : Int) + 1 ≤ 0) := by omega
  simp [shiftM, h]

theorem skipM_skip (i o r : Nat) : skipM i o ⟨0, [((r + 1 : Nat) : Int)]⟩
    = .recv i (fun x => match x with | some _ => ⟨0, [(r : Int)]⟩ | none => ⟨0, [0]⟩) := by
  have h : ¬ ((r : Int) + 1 ≤ 0) := by omega
  simp [skipM, h]
  rfl

theorem headM_take (i o r : Nat) : headM i o ⟨0, [((r + 1 : Nat) : Int)]⟩
    = .recv i (fun x => match x with | some v => ⟨1, [((r + 1 : Nat) : Int) - 1, v]⟩ | none => ⟨2, []⟩) := by
  have h : ¬ ((r : Int) + 1 ≤ 0) := by omega
  simp [headM, h]
  rfl

/-! ### a concrete network of the class: Duplicate → Operate → Operate with inputs of unequal length -/

theorem diamondNet_owned (fixed : Bool) (cap : Nat) : Owned (diamondNet fixed cap) :=
  owned_of_ports_chk _ fun p => match p with
  | 0 => ⟨[], [0], producer_ports 0, rfl⟩
  | 1 => ⟨[], [1], producer_ports 1, rfl⟩
  | 2 => ⟨[0], [2, 3], dup2_ports 0 2 3, rfl⟩
  | 3 => ⟨[2, 1], [4], ite_ports _ (operateNew_ports 2 1 4) (operateOld_ports 2 1 4), rfl⟩
  | 4 => ⟨[4, 3], [5], ite_ports _ (operateNew_ports 4 3 5) (operateOld_ports 4 3 5), rfl⟩
  | 5 => ⟨[5], [], sink_ports 5, rfl⟩
  | _ + 6 => ⟨[], [], halt_ports, rfl⟩

theorem diamondInit_wf (fixed : Bool) (cap : Nat) (as bs : List Int) : WF (diamondNet fixed cap) (diamondInit as bs) := by
  intro p c h
  simp only [diamondInit] at h
  split at h <;> simp at h

/-- with the Operate that drains before closing, inputs of lengths 3 and 1 deadlock on unbuffered channels
    (terminal state, not every process finished, the reader got one value) … -/
example : NetM.diamondRun false 0 [1, 2, 3] [10] = (true, false, [12], [0, 1, 0, 20, 0, 0]) := by decide
/-- … with capacity 2 the same pipeline happens to terminate (deadlocks depend on capacities, outputs do not) … -/
example : NetM.diamondRun false 2 [1, 2, 3] [10] = (true, true, [12], [1, 1, 5, 31, 31, 1]) := by decide
/-- … and with the repaired Operate it terminates cleanly on unbuffered channels (hence, by
    `clean_termination_for_larger_capacities`, for every capacity and every schedule) -/
example : NetM.diamondRun true 0 [1, 2, 3] [10] = (true, true, [12], [1, 1, 5, 31, 31, 1]) := by decide

end C03
