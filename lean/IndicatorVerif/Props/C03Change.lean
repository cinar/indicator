import IndicatorVerif.Props.C03Run
import IndicatorVerif.Props.C03Ports
import IndicatorVerif.Model.Stream
/-
  C03 — clean termination PROVED for one re-converging pipeline of the library, for every input, every parameter,
  every buffering and every schedule: `helper.Change(c, k)`
      cs := Duplicate(c, 2); cs[0] = Buffered(cs[0], k); cs[1] = Skip(cs[1], k); Subtract(cs[1], cs[0])
  (the building block of Roc/Kama/Rsi/Tsi/… — `NetM.changeNet`, six processes: producer, Duplicate, Pipe into the
  buffered channel, Skip, Subtract, an independent reader).

  Method: ONE run on the smallest admissible buffers (all channels unbuffered, the `Buffered` channel of capacity k)
  is exhibited for every input list and every k (`change_canonical_run`, induction over the input with the invariant
  "queue length + values still to skip = k", each round a chain of the communication patterns of C03Run); it ends with
  every process halted, every channel closed and empty, and the reader holding exactly `changeS k xs`.
  `clean_of_reach` (determinacy + capacity monotonicity) makes that the end of EVERY schedule for every larger
  buffering (any input capacity, any `Buffered` size ≥ k) and bounds the length of every schedule.
-/
namespace C03
open Net NetM

def P6 (l0 l1 l2 l3 l4 l5 : PS Loc) : Nat → PS Loc :=
  fun p => match p with | 0 => l0 | 1 => l1 | 2 => l2 | 3 => l3 | 4 => l4 | 5 => l5 | _ => (⟨0, []⟩, none)
def C6 (c0 c1 c2 c3 c4 c5 : CS Int) : Nat → CS Int :=
  fun c => match c with | 0 => c0 | 1 => c1 | 2 => c2 | 3 => c3 | 4 => c4 | 5 => c5 | _ => ([], false)
@[simp] theorem P6_0 (l0 l1 l2 l3 l4 l5 : PS Loc) : P6 l0 l1 l2 l3 l4 l5 0 = l0 := rfl
@[simp] theorem P6_1 (l0 l1 l2 l3 l4 l5 : PS Loc) : P6 l0 l1 l2 l3 l4 l5 1 = l1 := rfl
@[simp] theorem P6_2 (l0 l1 l2 l3 l4 l5 : PS Loc) : P6 l0 l1 l2 l3 l4 l5 2 = l2 := rfl
@[simp] theorem P6_3 (l0 l1 l2 l3 l4 l5 : PS Loc) : P6 l0 l1 l2 l3 l4 l5 3 = l3 := rfl
@[simp] theorem P6_4 (l0 l1 l2 l3 l4 l5 : PS Loc) : P6 l0 l1 l2 l3 l4 l5 4 = l4 := rfl
@[simp] theorem P6_5 (l0 l1 l2 l3 l4 l5 : PS Loc) : P6 l0 l1 l2 l3 l4 l5 5 = l5 := rfl
@[simp] theorem C6_0 (l0 l1 l2 l3 l4 l5 : CS Int) : C6 l0 l1 l2 l3 l4 l5 0 = l0 := rfl
@[simp] theorem C6_1 (l0 l1 l2 l3 l4 l5 : CS Int) : C6 l0 l1 l2 l3 l4 l5 1 = l1 := rfl
@[simp] theorem C6_2 (l0 l1 l2 l3 l4 l5 : CS Int) : C6 l0 l1 l2 l3 l4 l5 2 = l2 := rfl
@[simp] theorem C6_3 (l0 l1 l2 l3 l4 l5 : CS Int) : C6 l0 l1 l2 l3 l4 l5 3 = l3 := rfl
@[simp] theorem C6_4 (l0 l1 l2 l3 l4 l5 : CS Int) : C6 l0 l1 l2 l3 l4 l5 4 = l4 := rfl
@[simp] theorem C6_5 (l0 l1 l2 l3 l4 l5 : CS Int) : C6 l0 l1 l2 l3 l4 l5 5 = l5 := rfl

theorem P6_eq (l0 l1 l2 l3 l4 l5 : PS Loc) : P6 l0 l1 l2 l3 l4 l5
    = tcons l0 (tcons l1 (tcons l2 (tcons l3 (tcons l4 (tcons l5 (fun _ => (⟨0, []⟩, none))))))) := by
  funext p
  match p with
  | 0 | 1 | 2 | 3 | 4 | 5 => rfl
  | n + 6 => rfl

theorem C6_eq (l0 l1 l2 l3 l4 l5 : CS Int) : C6 l0 l1 l2 l3 l4 l5
    = tcons l0 (tcons l1 (tcons l2 (tcons l3 (tcons l4 (tcons l5 (fun _ => ([], false))))))) := by
  funext p
  match p with
  | 0 | 1 | 2 | 3 | 4 | 5 => rfl
  | n + 6 => rfl

/-- state at the start of a round: `rest` still to be produced, `q` waiting in the buffered channel, `r` values still
    to be skipped, `out` delivered to the reader; everything else idle and empty -/
def R (rest q : List Int) (r : Nat) (out : List Int) : St Loc Int :=
  ⟨P6 (⟨0, rest⟩, none) (⟨0, []⟩, none) (⟨0, []⟩, none) (⟨0, [(r : Int)]⟩, none) (⟨0, []⟩, none) (⟨0, out⟩, none),
   C6 ([], false) ([], false) ([], false) (q, false) ([], false) ([], false)⟩

/-- every process finished, every channel closed and empty, the reader holds `out` -/
def F (out : List Int) : St Loc Int :=
  ⟨P6 (⟨1, []⟩, none) (⟨5, []⟩, none) (⟨3, []⟩, none) (⟨3, []⟩, none) (⟨31, []⟩, none) (⟨1, out⟩, none),
   C6 ([], true) ([], true) ([], true) ([], true) ([], true) ([], true)⟩

/-- Subtract draining what is left in the buffered channel after it closed its output -/
def D (q out : List Int) : St Loc Int :=
  ⟨P6 (⟨1, []⟩, none) (⟨5, []⟩, none) (⟨3, []⟩, none) (⟨3, []⟩, none) (⟨10, []⟩, none) (⟨1, out⟩, none),
   C6 ([], true) ([], true) ([], true) (q, true) ([], true) ([], true)⟩

theorem changeInit_eq (xs : List Int) (k : Nat) : changeInit xs k = R xs [] k [] := by
  simp only [changeInit, R]
  congr 1
  · funext p
    match p with
    | 0 | 1 | 2 | 3 | 4 | 5 => rfl
    | n + 6 => rfl
  · funext c
    match c with
    | 0 | 1 | 2 | 3 | 4 | 5 => rfl
    | n + 6 => rfl

/-- a value that is still skipped: it goes through Duplicate into the buffer and into Skip, which drops it -/
theorem roundA (k : Nat) (x : Int) (rest q : List Int) (r : Nat) (out : List Int) (hq : q.length < k) :
    Reach (changeNet 0 k) (R (x :: rest) q (r + 1) out) (R rest (q ++ [x]) r out) := by
  refine (handover 0 1 0 (by decide) rfl rfl rfl rfl rfl rfl).trans ?_
  refine (handover 1 2 1 (by decide) rfl rfl rfl rfl rfl rfl).trans ?_
  refine (send_buffered 2 3 rfl rfl rfl hq).trans ?_
  refine (handover 1 3 2 (by decide) rfl rfl rfl (skipM_skip 2 4 r) rfl rfl).trans (.of_eq ?_)
  simp [R, P6_eq, C6_eq]

/-- steady state: the new value passes Skip, Subtract pairs it with the oldest buffered value, the Pipe (which held
    the new value in hand while the buffer was full) refills the buffer, the reader takes the difference -/
theorem roundB (k : Nat) (x y : Int) (rest q : List Int) (out : List Int) (hq : q.length < k) :
    Reach (changeNet 0 k) (R (x :: rest) (y :: q) 0 out) (R rest (q ++ [x]) 0 (out ++ [x - y])) := by
  refine (handover 0 1 0 (by decide) rfl rfl rfl rfl rfl rfl).trans ?_
  refine (handover 1 2 1 (by decide) rfl rfl rfl rfl rfl rfl).trans ?_
  refine (handover 1 3 2 (by decide) rfl rfl rfl rfl rfl rfl).trans ?_
  refine (handover 3 4 4 (by decide) rfl rfl rfl rfl rfl rfl).trans ?_
  refine (recv_queued 4 3 rfl rfl rfl).trans ?_
  refine (send_buffered 2 3 rfl rfl rfl hq).trans ?_
  refine (handover 4 5 5 (by decide) rfl rfl rfl rfl rfl rfl).trans (.of_eq ?_)
  simp [R, P6_eq, C6_eq]

/-- `k = 0` (nothing skipped, the `Buffered` channel is unbuffered too): the Pipe hands the value over to Subtract -/
theorem roundZ (x : Int) (rest : List Int) (out : List Int) :
    Reach (changeNet 0 0) (R (x :: rest) [] 0 out) (R rest [] 0 (out ++ [x - x])) := by
  refine (handover 0 1 0 (by decide) rfl rfl rfl rfl rfl rfl).trans ?_
  refine (handover 1 2 1 (by decide) rfl rfl rfl rfl rfl rfl).trans ?_
  refine (handover 1 3 2 (by decide) rfl rfl rfl rfl rfl rfl).trans ?_
  refine (handover 3 4 4 (by decide) rfl rfl rfl rfl rfl rfl).trans ?_
  refine (handover 2 4 3 (by decide) rfl rfl rfl rfl rfl rfl).trans ?_
  refine (handover 4 5 5 (by decide) rfl rfl rfl rfl rfl rfl).trans (.of_eq ?_)
  simp [R, P6_eq, C6_eq]

/-- the input is exhausted: closes propagate, Skip (still skipping or not) closes, Subtract closes its output first -/
theorem roundE (k : Nat) (q : List Int) (r : Nat) (out : List Int) :
    Reach (changeNet 0 k) (R [] q r out) (D q out) := by
  refine (close_recv 0 1 0 (by decide) rfl rfl rfl rfl rfl).trans ?_
  refine (close_recv 1 2 1 (by decide) rfl rfl rfl rfl rfl).trans ?_
  refine (close_chan 2 3 rfl rfl rfl).trans ?_
  cases r with
  | zero =>
    refine (close_recv 1 3 2 (by decide) rfl rfl rfl rfl rfl).trans ?_
    refine (close_recv 3 4 4 (by decide) rfl rfl rfl rfl rfl).trans ?_
    refine (close_recv 4 5 5 (by decide) rfl rfl rfl rfl rfl).trans (.of_eq ?_)
    simp [R, D, P6_eq, C6_eq]
  | succ r =>
    refine (close_recv 1 3 2 (by decide) rfl rfl rfl (skipM_skip 2 4 r) rfl).trans ?_
    refine (recv_closed 3 2 rfl rfl rfl).trans ?_
    refine (close_recv 3 4 4 (by decide) rfl rfl rfl rfl rfl).trans ?_
    refine (close_recv 4 5 5 (by decide) rfl rfl rfl rfl rfl).trans (.of_eq ?_)
    simp [R, D, P6_eq, C6_eq]

theorem drain (k : Nat) (q out : List Int) : Reach (changeNet 0 k) (D q out) (F out) := by
  induction q with
  | nil =>
    refine (recv_closed 4 3 rfl rfl rfl).trans (.of_eq ?_)
    simp [D, F, P6_eq, C6_eq]
  | cons y q ih =>
    refine (recv_queued 4 3 rfl rfl rfl).trans ?_
    simpa [D, P6_eq, C6_eq] using ih

/-- **the canonical run**: from any round-start state that satisfies the invariant, some schedule ends with
    everything halted and the reader holding the differences `x_{i} − x_{i−k}` of everything still to come -/
theorem change_canonical_run (k : Nat) (xs q : List Int) (r : Nat) (out : List Int)
    (hinv : q.length + r = k) :
    Reach (changeNet 0 k) (R xs q r out) (F (out ++ List.zipWith (fun a b => a - b) (xs.drop r) (q ++ xs))) := by
  induction xs generalizing q r out with
  | nil => simpa using (roundE k q r out).trans (drain k q out)
  | cons x rest ih =>
    cases r with
    | succ r => simpa using (roundA k x rest q r out (by omega)).trans (ih (q ++ [x]) r out (by simp; omega))
    | zero =>
      cases q with
      | cons y q =>
        simpa using (roundB k x y rest q out (by simp at hinv; omega)).trans
          (ih (q ++ [x]) 0 (out ++ [x - y]) (by simp at hinv ⊢; omega))
      | nil =>
        obtain rfl : k = 0 := by simpa using hinv.symm
        simpa using (roundZ x rest out).trans (ih [] 0 (out ++ [x - x]) rfl)

theorem change_canonical (xs : List Int) (k : Nat) :
    Reach (changeNet 0 k) (changeInit xs k) (F (List.zipWith (fun a b => a - b) (xs.drop k) xs)) := by
  simpa [changeInit_eq] using change_canonical_run k xs [] k [] (by simp)

theorem F_allHalted (cap buf : Nat) (out : List Int) : AllHalted (changeNet cap buf) (F out) := fun p =>
  match p with
  | 0 | 1 | 2 | 3 | 4 | 5 => ⟨rfl, rfl⟩
  | _ + 6 => ⟨rfl, rfl⟩

theorem changeNet_owned (cap buf : Nat) : Owned (changeNet cap buf) :=
  owned_of_ports_chk _ fun p => match p with
  | 0 => ⟨[], [0], producer_ports 0, rfl⟩
  | 1 => ⟨[0], [1, 2], dup2_ports 0 1 2, rfl⟩
  | 2 => ⟨[1], [3], pipe_ports 1 3, rfl⟩
  | 3 => ⟨[2], [4], skipM_ports 2 4, rfl⟩
  | 4 => ⟨[4, 3], [5], subtractNew_ports 4 3 5, rfl⟩
  | 5 => ⟨[5], [], sink_ports 5, rfl⟩
  | _ + 6 => ⟨[], [], halt_ports, rfl⟩

theorem changeInit_wf (cap buf : Nat) (xs : List Int) (k : Nat) : WF (changeNet cap buf) (changeInit xs k) := by
  intro p c h
  simp only [changeInit] at h
  split at h <;> simp at h

theorem changeNet_larger (cap buf k : Nat) (hb : k ≤ buf) : Larger (changeNet 0 k) (changeNet cap buf) := by
  constructor
  · rfl
  · intro c
    simp only [changeNet]
    split <;> omega

/-- **`helper.Change` terminates cleanly and computes the k-step difference — for every input, every `k`, every
    input-channel capacity, every `Buffered` size ≥ k and every schedule (pacing, GOMAXPROCS):**
    there is a bound on the number of steps of any execution, and any execution that can go no further has every
    process finished (no deadlock, no goroutine left), every channel closed and empty, and has delivered to the
    independent reader exactly `changeS k xs`. -/
theorem change_terminates_cleanly (xs : List Int) (k cap buf : Nat) (hb : k ≤ buf) :
    ∃ bound, ∀ t s2, run (changeNet cap buf) t (changeInit xs k) = some s2 →
      t.length ≤ bound ∧
      (Terminal (changeNet cap buf) s2 →
        AllHalted (changeNet cap buf) s2 ∧ (∀ c, s2.chans c = ([], true) ∨ 6 ≤ c) ∧
        (s2.procs 5).1.reg = Stream.changeS (fun a b : Int => a - b) k xs) := by
  obtain ⟨⟨b, h⟩, hA, -⟩ := clean_of_reach _ _ (changeNet_larger cap buf k hb) _ _
    (owned_safe _ (changeNet_owned cap buf) _ (changeInit_wf cap buf xs k)) (change_canonical xs k) (F_allHalted 0 k _)
  refine ⟨b, fun t s2 h2 => ⟨(h t s2 h2).1, fun hT => ?_⟩⟩
  obtain rfl := (h t s2 h2).2 hT
  refine ⟨hA, fun c => ?_, by simp [F, Stream.changeS]⟩
  match c with
  | 0 | 1 | 2 | 3 | 4 | 5 => exact .inl rfl
  | n + 6 => exact .inr (by omega)

/-- the statement is not vacuous: a run to a terminal state exists (the canonical one, transported) -/
theorem change_some_run_terminates (xs : List Int) (k cap buf : Nat) (hb : k ≤ buf) :
    ∃ t e, run (changeNet cap buf) t (changeInit xs k) = some e ∧ Terminal (changeNet cap buf) e :=
  have ⟨_, hA, t, ht⟩ := clean_of_reach _ _ (changeNet_larger cap buf k hb) _ _
    (owned_safe _ (changeNet_owned cap buf) _ (changeInit_wf cap buf xs k)) (change_canonical xs k) (F_allHalted 0 k _)
  ⟨t, _, ht, allHalted_terminal _ _ hA⟩

end C03
