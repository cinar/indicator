import IndicatorVerif.Props.C03
/-
  C03 — sequential composition of process networks.

  Setting (`Setup`, `Setup.OK`): ONE network `N` whose processes are split into an A-side and a B-side (`isA`), a link
  channel `c`, channels `chA` used only by the A-side and `chB` used only by the B-side.  Statically, an A-side process
  operates on channels of `chA` or sends on / closes `c`; a B-side process operates on channels of `chB` or receives
  from `c`.  Two component networks over the same local-state type:
    `NA` = the A-side of `N` plus an independent reader of `c` at a B-side index `snk` (every other B-side index idle);
    `NB` = a plain producer on `c` at an A-side index `prd` (every other A-side index idle) plus the B-side of `N`.
  The reader and the producer are not constructed but described: `sinkSt xs` / `sinkDone xs` (reading, having
  collected `xs` / finished), `col` (what a reader state has collected), `prodSt xs` / `prodDone`.

  Main theorem `sequential_composition_partial`: if `N`, `NA`, `NB` are `Safe` (C03Dyn) from corresponding initial
  states, ONE run of `NA` ends with every process halted and the reader holding `ys`, and ONE run of `NB` (producer
  loaded with `ys`) ends with every process halted and the link drained, then
    (1) no run of `N` is longer than the two observed runs together,
    (2) every reachable terminal state of `N` has every process halted, the A-side in the final local states of `NA`
        and the B-side in the final local states of `NB`,
    (3) such a state is reachable.
  The link may have any capacity, including 0 (hand-over waits on the link are simulated: the producer of `NB` waits
  exactly when an A-side process of `N` waits on the link; `Safe N` excludes two simultaneous writers).

  Why `_partial` — what is assumed beyond "NA terminates cleanly delivering ys, NB fed with ys terminates cleanly":
    * `hdrain`: in the final state of the `NB` run the queue of the link is empty, i.e. the B-side consumes all of
      `ys` (it does not halt leaving values in a buffered link).  Used once, in `terminal_clean`, to exclude a terminal
      state of `N` with a non-empty link.  (With an unbuffered link it is implied by the producer having halted, but
      that is not proved here.)
    * `Safe S.N s0` is a hypothesis; it is not derived from `Safe NA`, `Safe NB`.
    * static hypotheses about the producer at ALL its local states (`prodRecv`, `prodSendC`, `prodCloseC`: it never
      receives, and sends on / closes only the link), in addition to its behaviour at `prodSt xs` / `prodDone`.
    * `snk` is a B-side index and `prd` an A-side index (`snkB`, `prdA`).
  Nothing else: no bound on capacities, on the number of processes on either side, or on the shape of the two sides.

  Proof: a simulation relation `Sim s sA sB got` between states of `N`, `NA`, `NB` and the list `got` of values the
  B-side has taken from the link (`sim_step`, `sim_run`: every step of `N` is matched by at least one step of `NA` or
  `NB`); that the values sent on the link are, in order, a prefix of `ys`, and all of `ys` once it is closed, comes from
  the determinacy of `NA` (`prefOK_of_reach`); finiteness from `no_longer_schedule'` for `NA` and `NB`; terminal
  states by cases on the link (`terminal_clean`), using `terminal_unique'` for `NA` and `NB`.
  `example_composition` instantiates everything (producer → Pipe | Pipe → reader, all channels unbuffered).
-/
namespace C03
open Net

section StepCases
variable {L V : Type}

theorem opOf_flag (N : Network L V) (p : Nat) (ps : PS L) (d : Nat) (h : ps.2 = some d) :
    opOf N p ps = .sync d := by
  unfold opOf; simp [h]

/-- a halted process does not move -/
theorem halted_no_step (N : Network L V) (p : Nat) (s : St L V) (hf : (s.procs p).2 = none)
    (ha : N.act p (s.procs p).1 = .halt) : step N p s = none := by
  unfold step opOf; simp [hf, ha, Op.chan]

/-- the same process in the same local state facing the same channel moves the same way in another network -/
theorem step_transfer (N N' : Network L V) (p : Nat) (s s' : St L V)
    (hps : s'.procs p = s.procs p) (hact : N'.act p (s.procs p).1 = N.act p (s.procs p).1)
    (hcap : ∀ d, N'.cap d = N.cap d)
    (hch : ∀ d, (opOf N p (s.procs p)).chan = some d → s'.chans d = s.chans d) :
    (step N p s = none → step N' p s' = none) ∧
    (∀ a, step N p s = some a → ∃ d ps' cs', (opOf N p (s.procs p)).chan = some d ∧
      a = ⟨upd s.procs p ps', upd s.chans d cs'⟩ ∧
      step N' p s' = some ⟨upd s'.procs p ps', upd s'.chans d cs'⟩) := by
  have ho : opOf N' p (s'.procs p) = opOf N p (s.procs p) := by
    unfold opOf; rw [hps]
    cases (s.procs p).2 <;> simp [hact]
  constructor
  · intro h
    unfold step at h ⊢
    rw [ho]
    cases hc : (opOf N p (s.procs p)).chan with
    | none => simp
    | some d =>
      simp only [hc] at h ⊢
      rw [hcap d, hch d hc, hps]
      cases hf : (opOf N p (s.procs p)).fire (N.cap d) (s.procs p).1 (s.chans d) with
      | none => simp
      | some r => simp [hf] at h
  · intro a h
    obtain ⟨d, ps', cs', hc, hf, rfl⟩ := step_some N p s a h
    refine ⟨d, ps', cs', hc, rfl, ?_⟩
    apply step_of N' p s' d
    · rw [ho]; exact hc
    · rw [ho, hcap d, hch d hc, hps]; exact hf

end StepCases

/-! ### the setting -/

/-- the composed network `N`, its A-side / B-side split, the link channel `c`, and the two component networks:
    `NA` (A-side plus an independent reader `snk` of `c`) and `NB` (a plain producer `prd` on `c` plus the B-side) -/
structure Setup (L V : Type) where
  N : Network L V
  NA : Network L V
  NB : Network L V
  isA : Nat → Bool
  c : Nat
  snk : Nat
  prd : Nat
  chA : Nat → Prop
  chB : Nat → Prop
  /-- the reader's local state while reading, having collected `xs` -/
  sinkSt : List V → L
  /-- the reader's local state after it has seen the end of the stream -/
  sinkDone : List V → L
  /-- what a reader state has collected -/
  col : L → List V
  /-- the producer's local state with `xs` still to send -/
  prodSt : List V → L
  prodDone : L

/-- the static hypotheses ("wiring") -/
structure Setup.OK {L V : Type} (S : Setup L V) : Prop where
  c_notA : ¬ S.chA S.c
  c_notB : ¬ S.chB S.c
  disj : ∀ d, S.chA d → ¬ S.chB d
  -- A-side processes of N: any operation on channels of A, or send / close on the link
  recvA : ∀ p l d k, S.isA p = true → S.N.act p l = .recv d k → S.chA d
  sendA : ∀ p l d v k, S.isA p = true → S.N.act p l = .send d v k → S.chA d ∨ d = S.c
  closeA : ∀ p l d k, S.isA p = true → S.N.act p l = .close d k → S.chA d ∨ d = S.c
  -- B-side processes of N: any operation on channels of B, or receive on the link
  recvB : ∀ p l d k, S.isA p = false → S.N.act p l = .recv d k → S.chB d ∨ d = S.c
  sendB : ∀ p l d v k, S.isA p = false → S.N.act p l = .send d v k → S.chB d
  closeB : ∀ p l d k, S.isA p = false → S.N.act p l = .close d k → S.chB d
  -- the component networks
  capA : ∀ d, S.NA.cap d = S.N.cap d
  capB : ∀ d, S.NB.cap d = S.N.cap d
  snkB : S.isA S.snk = false
  prdA : S.isA S.prd = true
  actNA : ∀ p l, S.isA p = true → S.NA.act p l = S.N.act p l
  haltNA : ∀ p l, S.isA p = false → p ≠ S.snk → S.NA.act p l = .halt
  actNB : ∀ p l, S.isA p = false → S.NB.act p l = S.N.act p l
  haltNB : ∀ p l, S.isA p = true → p ≠ S.prd → S.NB.act p l = .halt
  -- the independent reader
  sinkRun : ∀ xs, S.NA.act S.snk (S.sinkSt xs) =
    .recv S.c (fun r => match r with | some v => S.sinkSt (xs ++ [v]) | none => S.sinkDone xs)
  sinkHalt : ∀ xs, S.NA.act S.snk (S.sinkDone xs) = .halt
  colSt : ∀ xs, S.col (S.sinkSt xs) = xs
  colDone : ∀ xs, S.col (S.sinkDone xs) = xs
  -- the plain producer
  prodSend : ∀ v rest, S.NB.act S.prd (S.prodSt (v :: rest)) = .send S.c v (S.prodSt rest)
  prodClose : S.NB.act S.prd (S.prodSt []) = .close S.c S.prodDone
  prodHalt : S.NB.act S.prd S.prodDone = .halt
  -- statically, the producer does nothing but write the link
  prodRecv : ∀ l d k, S.NB.act S.prd l ≠ .recv d k
  prodSendC : ∀ l d v k, S.NB.act S.prd l = .send d v k → d = S.c
  prodCloseC : ∀ l d k, S.NB.act S.prd l = .close d k → d = S.c

section NAinv
variable {L V : Type} (S : Setup L V)

/-- the reader of `NA` has collected `got` (and if it has finished, the link is closed and empty) -/
def SnkAt (sA : St L V) (got : List V) : Prop :=
  sA.procs S.snk = (S.sinkSt got, none) ∨ (sA.procs S.snk = (S.sinkDone got, none) ∧ sA.chans S.c = ([], true))

/-- invariant of `NA`: the reader is in one of its two shapes, the idle B-side indices stay idle -/
def InvA (sA : St L V) (got : List V) : Prop :=
  SnkAt S sA got ∧ ∀ p, S.isA p = false → p ≠ S.snk → (sA.procs p).2 = none

/-- one step of `NA`: what has been delivered on the link (collected ++ queued) only grows by appending, and not
    at all once the link is closed -/
theorem stepA_inv (h : S.OK) (sA sA' : St L V) (got : List V) (p : Nat) (hI : InvA S sA got)
    (hs : step S.NA p sA = some sA') :
    ∃ got' sfx, InvA S sA' got' ∧ got' ++ (sA'.chans S.c).1 = got ++ (sA.chans S.c).1 ++ sfx ∧
      ((sA.chans S.c).2 = true → sfx = [] ∧ (sA'.chans S.c).2 = true) ∧ (p ≠ S.snk → got' = got) := by
  obtain ⟨hSn, hOth⟩ := hI
  have hF := step_fired S.NA p sA sA' hs
  by_cases hp : p = S.snk
  · -- the reader moves
    subst hp
    rcases hSn with hSt | ⟨hDn, hcl⟩
    · have hact := h.sinkRun got
      cases hF with
      | recvSome d k v rest cl hf ha hc =>
        rw [hSt] at ha; simp only at ha; rw [hact] at ha
        simp only [Act.recv.injEq] at ha
        obtain ⟨rfl, rfl⟩ := ha
        refine ⟨got ++ [v], [], ⟨Or.inl (by simp [upd_same]), ?_⟩, ?_, ?_, fun e => absurd rfl e⟩
        · intro q hq hqs; simp only [upd_other _ _ _ _ hqs]; exact hOth q hq hqs
        · simp [upd_same, hc]
        · intro hcl; simp [upd_same]; simpa [hc] using hcl
      | recvNone d k hf ha hc =>
        rw [hSt] at ha; simp only at ha; rw [hact] at ha
        simp only [Act.recv.injEq] at ha
        obtain ⟨rfl, rfl⟩ := ha
        refine ⟨got, [], ⟨Or.inr ⟨by simp [upd_same], by simp [upd_same]⟩, ?_⟩, ?_, ?_, fun e => absurd rfl e⟩
        · intro q hq hqs; simp only [upd_other _ _ _ _ hqs]; exact hOth q hq hqs
        · simp [upd_same, hc]
        · intro _; simp [upd_same]
      | send d v k q hf ha hc hl => rw [hSt] at ha; simp only at ha; rw [hact] at ha; simp at ha
      | close d k q hf ha hc => rw [hSt] at ha; simp only at ha; rw [hact] at ha; simp at ha
      | sync d cl hf hc => rw [hSt] at hf; simp at hf
    · have hact := h.sinkHalt got
      have := halted_no_step S.NA S.snk sA (by rw [hDn]) (by rw [hDn]; exact hact)
      rw [this] at hs; simp at hs
  · by_cases hA : S.isA p = true
    · -- an A-side process moves: the reader is untouched
      have hsnk : S.snk ≠ p := fun e => hp e.symm
      have key : ∀ (ps' : PS L) (d : Nat) (cs' : CS V) (sfx : List V),
          (d = S.c → cs'.1 = (sA.chans S.c).1 ++ sfx ∧ ((sA.chans S.c).2 = true → sfx = [] ∧ cs' = sA.chans S.c)) →
          (d ≠ S.c → sfx = []) →
          ∃ got' sfx, InvA S ⟨upd sA.procs p ps', upd sA.chans d cs'⟩ got' ∧
            got' ++ ((upd sA.chans d cs') S.c).1 = got ++ (sA.chans S.c).1 ++ sfx ∧
            ((sA.chans S.c).2 = true → sfx = [] ∧ ((upd sA.chans d cs') S.c).2 = true) ∧ (p ≠ S.snk → got' = got) := by
        intro ps' d cs' sfx h1 h2
        refine ⟨got, sfx, ⟨?_, ?_⟩, ?_, ?_, fun _ => rfl⟩
        · rcases hSn with hSt | ⟨hDn, hcl⟩
          · left; simp only [upd_other _ _ _ _ hsnk]; exact hSt
          · right; simp only [upd_other _ _ _ _ hsnk]
            refine ⟨hDn, ?_⟩
            by_cases hd : d = S.c
            · subst hd
              have := (h1 rfl).2 (by rw [hcl])
              simp only [upd_same]; rw [this.2]; exact hcl
            · simp only [upd_other _ _ _ _ (fun e => hd e.symm)]; exact hcl
        · intro q hq hqs
          have : q ≠ p := fun e => by subst e; rw [hA] at hq; simp at hq
          simp only [upd_other _ _ _ _ this]; exact hOth q hq hqs
        · by_cases hd : d = S.c
          · subst hd; simp only [upd_same]; rw [(h1 rfl).1]; simp
          · simp only [upd_other _ _ _ _ (fun e => hd e.symm)]; rw [h2 hd]; simp
        · intro hcl
          by_cases hd : d = S.c
          · subst hd
            have := (h1 rfl).2 hcl
            simp only [upd_same]; rw [this.2]; exact ⟨this.1, hcl⟩
          · simp only [upd_other _ _ _ _ (fun e => hd e.symm)]; exact ⟨h2 hd, hcl⟩
      cases hF with
      | recvSome d k v rest cl hf ha hc =>
        rw [h.actNA p _ hA] at ha
        have hdA := h.recvA p _ d k hA ha
        have hd : d ≠ S.c := fun e => h.c_notA (e ▸ hdA)
        exact key _ d _ [] (fun e => absurd e hd) (fun _ => rfl)
      | recvNone d k hf ha hc =>
        rw [h.actNA p _ hA] at ha
        have hdA := h.recvA p _ d k hA ha
        have hd : d ≠ S.c := fun e => h.c_notA (e ▸ hdA)
        exact key _ d _ [] (fun e => absurd e hd) (fun _ => rfl)
      | send d v k q hf ha hc hl =>
        by_cases hd : d = S.c
        · subst hd
          exact key _ S.c _ [v] (fun _ => ⟨by simp [hc], fun hcl => by simp [hc] at hcl⟩) (fun e => absurd rfl e)
        · exact key _ d _ [] (fun e => absurd e hd) (fun _ => rfl)
      | close d k q hf ha hc =>
        by_cases hd : d = S.c
        · subst hd
          exact key _ S.c _ [] (fun _ => ⟨by simp [hc], fun hcl => by simp [hc] at hcl⟩) (fun _ => rfl)
        · exact key _ d _ [] (fun e => absurd e hd) (fun _ => rfl)
      | sync d cl hf hc =>
        by_cases hd : d = S.c
        · subst hd
          exact key _ S.c _ [] (fun _ => ⟨by simp [hc], fun _ => ⟨rfl, hc.symm⟩⟩) (fun _ => rfl)
        · exact key _ d _ [] (fun e => absurd e hd) (fun _ => rfl)
    · -- an idle index does not move
      have hA' : S.isA p = false := by cases hx : S.isA p <;> simp_all
      have := halted_no_step S.NA p sA (hOth p hA' hp) (h.haltNA p _ hA' hp)
      rw [this] at hs; simp at hs

theorem runA_inv (h : S.OK) (t : List Nat) (sA sA' : St L V) (got : List V) (hI : InvA S sA got)
    (hr : run S.NA t sA = some sA') :
    ∃ got' sfx, InvA S sA' got' ∧ got' ++ (sA'.chans S.c).1 = got ++ (sA.chans S.c).1 ++ sfx ∧
      ((sA.chans S.c).2 = true → sfx = [] ∧ (sA'.chans S.c).2 = true) := by
  induction t generalizing sA got with
  | nil =>
    simp only [run, Option.some.injEq] at hr; subst hr
    exact ⟨got, [], hI, by simp, fun hcl => ⟨rfl, hcl⟩⟩
  | cons p rest ih =>
    simp only [run] at hr
    cases hp : step S.NA p sA with
    | none => simp [hp] at hr
    | some a =>
      simp only [hp, Option.bind_some] at hr
      obtain ⟨g1, x1, hI1, e1, c1, _⟩ := stepA_inv S h sA a got p hI hp
      obtain ⟨g2, x2, hI2, e2, c2⟩ := ih a g1 hI1 hr
      refine ⟨g2, x1 ++ x2, hI2, ?_, ?_⟩
      · rw [e2, e1]; simp
      · intro hcl
        obtain ⟨r1, r2⟩ := c1 hcl
        obtain ⟨r3, r4⟩ := c2 r2
        exact ⟨by simp [r1, r3], r4⟩

end NAinv

section Sim
variable {L V : Type} (S : Setup L V)

/-- which channel a process is about to operate on, in terms of its flag and its action -/
theorem chan_cases (N : Network L V) (p : Nat) (ps : PS L) (d : Nat) (h : (opOf N p ps).chan = some d) :
    ps.2 = some d ∨ (ps.2 = none ∧ ((∃ k, N.act p ps.1 = .recv d k) ∨ (∃ v k, N.act p ps.1 = .send d v k) ∨
      (∃ k, N.act p ps.1 = .close d k))) := by
  cases hp : ps.2 with
  | some d0 =>
    rw [opOf_flag N p ps d0 hp] at h
    simp only [Op.chan, Option.some.injEq] at h
    left; rw [h]
  | none =>
    right; refine ⟨rfl, ?_⟩
    unfold opOf at h
    simp only [hp] at h
    cases ha : N.act p ps.1 with
    | recv d1 k => simp only [ha, Op.chan, Option.some.injEq] at h; subst h; exact Or.inl ⟨k, rfl⟩
    | send d1 v k => simp only [ha, Op.chan, Option.some.injEq] at h; subst h; exact Or.inr (Or.inl ⟨v, k, rfl⟩)
    | close d1 k => simp only [ha, Op.chan, Option.some.injEq] at h; subst h; exact Or.inr (Or.inr ⟨k, rfl⟩)
    | halt => simp [ha, Op.chan] at h

/-- a process waits only for the hand-over of a channel of its own side (A-side: possibly the link) -/
def FlagOK (s : St L V) : Prop :=
  ∀ p d, (s.procs p).2 = some d → (S.isA p = true → S.chA d ∨ d = S.c) ∧ (S.isA p = false → S.chB d)

theorem classA (h : S.OK) (s : St L V) (hF : FlagOK S s) (p d : Nat) (hA : S.isA p = true)
    (hc : (opOf S.N p (s.procs p)).chan = some d) : S.chA d ∨ d = S.c := by
  rcases chan_cases S.N p _ d hc with hf | ⟨_, ⟨k, ha⟩ | ⟨v, k, ha⟩ | ⟨k, ha⟩⟩
  · exact (hF p d hf).1 hA
  · exact Or.inl (h.recvA p _ d k hA ha)
  · exact h.sendA p _ d v k hA ha
  · exact h.closeA p _ d k hA ha

theorem classB (h : S.OK) (s : St L V) (hF : FlagOK S s) (p d : Nat) (hB : S.isA p = false)
    (hc : (opOf S.N p (s.procs p)).chan = some d) :
    S.chB d ∨ (d = S.c ∧ (s.procs p).2 = none ∧ ∃ k, S.N.act p (s.procs p).1 = .recv S.c k) := by
  rcases chan_cases S.N p _ d hc with hf | ⟨hf, ⟨k, ha⟩ | ⟨v, k, ha⟩ | ⟨k, ha⟩⟩
  · exact Or.inl ((hF p d hf).2 hB)
  · rcases h.recvB p _ d k hB ha with hb | rfl
    · exact Or.inl hb
    · exact Or.inr ⟨rfl, hf, k, ha⟩
  · exact Or.inl (h.sendB p _ d v k hB ha)
  · exact Or.inl (h.closeB p _ d k hB ha)

/-- shape of a step: one process state and one channel state change; a new wait is for that channel -/
theorem step_shape (N : Network L V) (p : Nat) (s s' : St L V) (h : step N p s = some s') :
    ∃ d ps' cs', (opOf N p (s.procs p)).chan = some d ∧ s' = ⟨upd s.procs p ps', upd s.chans d cs'⟩ ∧
      (ps'.2 = none ∨ (ps'.2 = some d ∧ (s.procs p).2 = none ∧ ∃ v k, N.act p (s.procs p).1 = .send d v k)) := by
  have hF := step_fired N p s s' h
  cases hF with
  | recvSome d k v rest cl hf ha hc =>
    exact ⟨d, _, _, by unfold opOf; simp [hf, ha, Op.chan], rfl, Or.inl rfl⟩
  | recvNone d k hf ha hc =>
    exact ⟨d, _, _, by unfold opOf; simp [hf, ha, Op.chan], rfl, Or.inl rfl⟩
  | send d v k q hf ha hc hl =>
    refine ⟨d, _, _, by unfold opOf; simp [hf, ha, Op.chan], rfl, ?_⟩
    by_cases h0 : N.cap d = 0
    · right; exact ⟨by simp [h0], hf, v, k, ha⟩
    · left; simp [h0]
  | close d k q hf ha hc =>
    exact ⟨d, _, _, by unfold opOf; simp [hf, ha, Op.chan], rfl, Or.inl rfl⟩
  | sync d cl hf hc =>
    exact ⟨d, _, _, by rw [opOf_flag N p _ d hf]; simp [Op.chan], rfl, Or.inl rfl⟩

theorem flagOK_step (h : S.OK) (s s' : St L V) (p : Nat) (hF : FlagOK S s) (hs : step S.N p s = some s') :
    FlagOK S s' := by
  obtain ⟨d, ps', cs', hc, rfl, hps⟩ := step_shape S.N p s s' hs
  intro q e hq
  by_cases hqp : q = p
  · subst hqp
    simp only [upd_same] at hq
    rcases hps with h0 | ⟨h1, hf, v, k, ha⟩
    · rw [h0] at hq; simp at hq
    · rw [h1] at hq; simp only [Option.some.injEq] at hq; subst hq
      exact ⟨fun hA => h.sendA q _ d v k hA ha, fun hB => h.sendB q _ d v k hB ha⟩
  · simp only [upd_other _ _ _ _ hqp] at hq
    exact hF q e hq

/-- `p` is about to write the link (send, close, or wait for its hand-over) -/
def WritesLink (s : St L V) (p : Nat) : Prop :=
  (s.procs p).2 = some S.c ∨ ((s.procs p).2 = none ∧
    ((∃ v k, S.N.act p (s.procs p).1 = .send S.c v k) ∨ ∃ k, S.N.act p (s.procs p).1 = .close S.c k))

theorem two_writers (s : St L V) (hN : NoConflict S.N s) (p q : Nat) (hpq : p ≠ q)
    (hp : WritesLink S s p) (hq : WritesLink S s q) : False := by
  have ops : ∀ r, WritesLink S s r → (opOf S.N r (s.procs r)).chan = some S.c ∧
      (opOf S.N r (s.procs r)).isReader = false := by
    intro r hr
    rcases hr with hf | ⟨hf, ⟨v, k, ha⟩ | ⟨k, ha⟩⟩
    · rw [opOf_flag S.N r _ S.c hf]; simp [Op.chan, Op.isReader]
    · unfold opOf; simp [hf, ha, Op.chan, Op.isReader]
    · unfold opOf; simp [hf, ha, Op.chan, Op.isReader]
  obtain ⟨c1, r1⟩ := ops p hp
  obtain ⟨c2, r2⟩ := ops q hq
  rcases hN p q S.c hpq c1 c2 with ⟨x, _⟩ | ⟨_, x⟩
  · rw [r1] at x; simp at x
  · rw [r2] at x; simp at x

variable (ys : List V)

/-- the producer of `NB` mirrors the A-side's writing end of the link: same hand-over wait, and what it still has
    to send is what remains of `ys` after what B has taken (`got`) and what is queued -/
def PrdAt (s sB : St L V) (got : List V) : Prop :=
  (∀ p, S.isA p = true → (s.procs p).2 = some S.c → (sB.procs S.prd).2 = some S.c) ∧
  ((sB.procs S.prd).2 = none ∨
    ((sB.procs S.prd).2 = some S.c ∧ ∃ p, S.isA p = true ∧ (s.procs p).2 = some S.c)) ∧
  (((s.chans S.c).2 = false ∧ ∃ rem, (sB.procs S.prd).1 = S.prodSt rem ∧ got ++ (s.chans S.c).1 ++ rem = ys) ∨
   ((s.chans S.c).2 = true ∧ (sB.procs S.prd).1 = S.prodDone))

/-- the simulation relation: a state `s` of `N`, a state `sA` of `NA`, a state `sB` of `NB`, and the values `got`
    that the B-side has taken from the link so far -/
structure Sim (s sA sB : St L V) (got : List V) : Prop where
  flag : FlagOK S s
  procA : ∀ p, S.isA p = true → sA.procs p = s.procs p
  chanA : ∀ d, S.chA d → sA.chans d = s.chans d
  linkA : sA.chans S.c = s.chans S.c
  invA : InvA S sA got
  procB : ∀ p, S.isA p = false → sB.procs p = s.procs p
  chanB : ∀ d, S.chB d → sB.chans d = s.chans d
  linkB : sB.chans S.c = s.chans S.c
  idleB : ∀ p, S.isA p = true → p ≠ S.prd → (sB.procs p).2 = none
  prd : PrdAt S ys s sB got

/-- what `NA` guarantees about the link in the state `sA`: delivered values are a prefix of `ys`, all of `ys` once
    the link is closed -/
def PrefOK (sA : St L V) : Prop :=
  ∀ got, InvA S sA got → (∃ r, got ++ (sA.chans S.c).1 ++ r = ys) ∧
    ((sA.chans S.c).2 = true → got ++ (sA.chans S.c).1 = ys)


theorem step_transfer' (N N' : Network L V) (p : Nat) (s s' : St L V) (d : Nat) (ps' : PS L) (cs' : CS V)
    (hps : s'.procs p = s.procs p) (hact : N'.act p (s.procs p).1 = N.act p (s.procs p).1)
    (hcap : ∀ d, N'.cap d = N.cap d) (hc : (opOf N p (s.procs p)).chan = some d)
    (hch : s'.chans d = s.chans d) (hs : step N p s = some ⟨upd s.procs p ps', upd s.chans d cs'⟩) :
    step N' p s' = some ⟨upd s'.procs p ps', upd s'.chans d cs'⟩ := by
  obtain ⟨_, tr⟩ := step_transfer N N' p s s' hps hact hcap
    (fun e he => by rw [hc] at he; simp only [Option.some.injEq] at he; subst he; exact hch)
  obtain ⟨d2, ps2, cs2, hc2, heq, hst⟩ := tr _ hs
  have ed : d2 = d := by rw [hc] at hc2; simpa using hc2.symm
  subst ed
  have e1 : ps' = ps2 := by
    have := congrArg (fun st => st.procs p) heq
    simpa [upd_same] using this
  have e2 : cs' = cs2 := by
    have := congrArg (fun st => st.chans d2) heq
    simpa [upd_same] using this
  subst e1; subst e2; exact hst

theorem prdAt_congr (s s' sB sB' : St L V) (got : List V) (hc : s'.chans S.c = s.chans S.c)
    (hf : ∀ q, S.isA q = true → ((s'.procs q).2 = some S.c ↔ (s.procs q).2 = some S.c))
    (hp : sB'.procs S.prd = sB.procs S.prd) (hP : PrdAt S ys s sB got) : PrdAt S ys s' sB' got := by
  unfold PrdAt at hP ⊢
  rw [hc, hp]
  obtain ⟨h1, h2, h3⟩ := hP
  refine ⟨fun q hq hq' => h1 q hq ((hf q hq).1 hq'), ?_, h3⟩
  rcases h2 with h0 | ⟨a, q, hq, hq'⟩
  · exact Or.inl h0
  · exact Or.inr ⟨a, q, hq, (hf q hq).2 hq'⟩

theorem isA_ne (p q : Nat) (hp : S.isA p = true) (hq : S.isA q = false) : p ≠ q := by
  intro e; rw [e, hq] at hp; simp at hp

/-- an A-side process moves on a channel other than the link: `NA` does the same step, `NB` does nothing -/
theorem sim_A_other (h : S.OK) (s sA sB : St L V) (got : List V) (p d : Nat) (ps' : PS L) (cs' : CS V)
    (hS : Sim S ys s sA sB got) (hA : S.isA p = true) (hc : (opOf S.N p (s.procs p)).chan = some d)
    (hd : d ≠ S.c) (hps : ps'.2 = none ∨ ps'.2 = some d)
    (hs : step S.N p s = some ⟨upd s.procs p ps', upd s.chans d cs'⟩)
    (hFl : FlagOK S ⟨upd s.procs p ps', upd s.chans d cs'⟩) :
    ∃ sA', step S.NA p sA = some sA' ∧ Sim S ys ⟨upd s.procs p ps', upd s.chans d cs'⟩ sA' sB got := by
  have hdA : S.chA d := (classA S h s hS.flag p d hA hc).resolve_right hd
  have hsA := step_transfer' S.N S.NA p s sA d ps' cs' (hS.procA p hA) (h.actNA p _ hA) h.capA hc
    (hS.chanA d hdA) hs
  obtain ⟨g', _, hI', _, _, hg⟩ := stepA_inv S h sA _ got p hS.invA hsA
  have hpsnk : p ≠ S.snk := isA_ne S p S.snk hA h.snkB
  rw [hg hpsnk] at hI'
  have hcd : S.c ≠ d := fun e => hd e.symm
  have hpf : (s.procs p).2 ≠ some S.c := by
    intro e
    rw [opOf_flag S.N p _ S.c e] at hc
    simp only [Op.chan, Option.some.injEq] at hc
    exact hcd hc
  have hps' : ps'.2 ≠ some S.c := by
    rcases hps with e | e <;> rw [e] <;> simp
    exact fun x => hcd x.symm
  refine ⟨_, hsA, ⟨hFl, ?_, ?_, ?_, hI', ?_, ?_, ?_, hS.idleB, ?_⟩⟩
  · intro q hq
    by_cases hqp : q = p
    · subst hqp; simp [upd_same]
    · simp only [upd_other _ _ _ _ hqp]; exact hS.procA q hq
  · intro e he
    by_cases hed : e = d
    · subst hed; simp [upd_same]
    · simp only [upd_other _ _ _ _ hed]; exact hS.chanA e he
  · simp only [upd_other _ _ _ _ hcd]; exact hS.linkA
  · intro q hq
    have hqp : q ≠ p := fun e => (isA_ne S p q hA hq) e.symm
    simp only [upd_other _ _ _ _ hqp]; exact hS.procB q hq
  · intro e he
    have hed : e ≠ d := fun x => h.disj d hdA (x ▸ he)
    simp only [upd_other _ _ _ _ hed]; exact hS.chanB e he
  · simp only [upd_other _ _ _ _ hcd]; exact hS.linkB
  · apply prdAt_congr S ys s _ sB sB got _ _ rfl hS.prd
    · simp only [upd_other _ _ _ _ hcd]
    · intro q _
      by_cases hqp : q = p
      · subst hqp; simp only [upd_same]
        exact ⟨fun x => absurd x hps', fun x => absurd x hpf⟩
      · simp only [upd_other _ _ _ _ hqp]

/-- a B-side process moves on a channel other than the link: `NB` does the same step, `NA` does nothing -/
theorem sim_B_other (h : S.OK) (s sA sB : St L V) (got : List V) (p d : Nat) (ps' : PS L) (cs' : CS V)
    (hS : Sim S ys s sA sB got) (hB : S.isA p = false) (hc : (opOf S.N p (s.procs p)).chan = some d)
    (hdB : S.chB d)
    (hs : step S.N p s = some ⟨upd s.procs p ps', upd s.chans d cs'⟩)
    (hFl : FlagOK S ⟨upd s.procs p ps', upd s.chans d cs'⟩) :
    ∃ sB', step S.NB p sB = some sB' ∧ Sim S ys ⟨upd s.procs p ps', upd s.chans d cs'⟩ sA sB' got := by
  have hsB := step_transfer' S.N S.NB p s sB d ps' cs' (hS.procB p hB) (h.actNB p _ hB) h.capB hc
    (hS.chanB d hdB) hs
  have hcd : S.c ≠ d := fun e => h.c_notB (e ▸ hdB)
  have hprd : S.prd ≠ p := isA_ne S S.prd p h.prdA hB
  refine ⟨_, hsB, ⟨hFl, ?_, ?_, ?_, hS.invA, ?_, ?_, ?_, ?_, ?_⟩⟩
  · intro q hq
    have hqp : q ≠ p := isA_ne S q p hq hB
    simp only [upd_other _ _ _ _ hqp]; exact hS.procA q hq
  · intro e he
    have hed : e ≠ d := fun x => h.disj e he (x ▸ hdB)
    simp only [upd_other _ _ _ _ hed]; exact hS.chanA e he
  · simp only [upd_other _ _ _ _ hcd]; exact hS.linkA
  · intro q hq
    by_cases hqp : q = p
    · subst hqp; simp [upd_same]
    · simp only [upd_other _ _ _ _ hqp]; exact hS.procB q hq
  · intro e he
    by_cases hed : e = d
    · subst hed; simp [upd_same]
    · simp only [upd_other _ _ _ _ hed]; exact hS.chanB e he
  · simp only [upd_other _ _ _ _ hcd]; exact hS.linkB
  · intro q hq hqp
    have hqp' : q ≠ p := isA_ne S q p hq hB
    simp only [upd_other _ _ _ _ hqp']; exact hS.idleB q hq hqp
  · apply prdAt_congr S ys s _ sB _ got _ _ _ hS.prd
    · simp only [upd_other _ _ _ _ hcd]
    · intro q hq
      have hqp : q ≠ p := isA_ne S q p hq hB
      simp only [upd_other _ _ _ _ hqp]
    · simp only [upd_other _ _ _ _ hprd]


/-- a B-side process takes a value from the link: `NB` does the same step, the reader of `NA` takes the value -/
theorem sim_B_recvSome (h : S.OK) (s sA sB : St L V) (got : List V) (p : Nat) (k : Option V → L) (v : V)
    (rest : List V) (cl : Bool) (hS : Sim S ys s sA sB got) (hB : S.isA p = false)
    (hf : (s.procs p).2 = none) (ha : S.N.act p (s.procs p).1 = .recv S.c k) (hcq : s.chans S.c = (v :: rest, cl))
    (hFl : FlagOK S ⟨upd s.procs p (k (some v), none), upd s.chans S.c (rest, cl)⟩) :
    ∃ sA' sB', step S.NA S.snk sA = some sA' ∧ step S.NB p sB = some sB' ∧
      Sim S ys ⟨upd s.procs p (k (some v), none), upd s.chans S.c (rest, cl)⟩ sA' sB' (got ++ [v]) := by
  have hsB := fired_step S.NB p sB _ (Fired.recvSome S.c k v rest cl (by rw [hS.procB p hB]; exact hf)
    (by rw [hS.procB p hB, h.actNB p _ hB]; exact ha) (by rw [hS.linkB]; exact hcq))
  have hSt : sA.procs S.snk = (S.sinkSt got, none) := by
    rcases hS.invA.1 with x | ⟨_, x⟩
    · exact x
    · rw [hS.linkA, hcq] at x; simp at x
  have hsA := fired_step S.NA S.snk sA _ (Fired.recvSome S.c _ v rest cl (by rw [hSt])
    (by rw [hSt]; exact h.sinkRun got) (by rw [hS.linkA]; exact hcq))
  have hprd : S.prd ≠ p := isA_ne S S.prd p h.prdA hB
  refine ⟨_, _, hsA, hsB, ⟨hFl, ?_, ?_, ?_, ⟨Or.inl (by simp [upd_same]), ?_⟩, ?_, ?_, ?_, ?_, ?_⟩⟩
  · intro q hq
    have hqp : q ≠ p := isA_ne S q p hq hB
    have hqs : q ≠ S.snk := isA_ne S q S.snk hq h.snkB
    simp only [upd_other _ _ _ _ hqp, upd_other _ _ _ _ hqs]; exact hS.procA q hq
  · intro e he
    have hec : e ≠ S.c := fun x => h.c_notA (x ▸ he)
    simp only [upd_other _ _ _ _ hec]; exact hS.chanA e he
  · simp only [upd_same]
  · intro q hq hqs; simp only [upd_other _ _ _ _ hqs]; exact hS.invA.2 q hq hqs
  · intro q hq
    by_cases hqp : q = p
    · subst hqp; simp [upd_same]
    · simp only [upd_other _ _ _ _ hqp]; exact hS.procB q hq
  · intro e he
    have hec : e ≠ S.c := fun x => h.c_notB (x ▸ he)
    simp only [upd_other _ _ _ _ hec]; exact hS.chanB e he
  · simp only [upd_same]
  · intro q hq hqp
    have hqp' : q ≠ p := isA_ne S q p hq hB
    simp only [upd_other _ _ _ _ hqp']; exact hS.idleB q hq hqp
  · obtain ⟨h1, h2, h3⟩ := hS.prd
    refine ⟨?_, ?_, ?_⟩
    · intro q hq hq'
      have hqp : q ≠ p := isA_ne S q p hq hB
      simp only [upd_other _ _ _ _ hqp] at hq'
      simp only [upd_other _ _ _ _ hprd]; exact h1 q hq hq'
    · simp only [upd_other _ _ _ _ hprd]
      rcases h2 with h0 | ⟨a, q, hq, hq'⟩
      · exact Or.inl h0
      · have hqp : q ≠ p := isA_ne S q p hq hB
        exact Or.inr ⟨a, q, hq, by simp only [upd_other _ _ _ _ hqp]; exact hq'⟩
    · simp only [upd_other _ _ _ _ hprd, upd_same]
      rw [hcq] at h3
      rcases h3 with ⟨hcl, rem, hr, e⟩ | ⟨hcl, hr⟩
      · exact Or.inl ⟨hcl, rem, hr, by simpa using e⟩
      · exact Or.inr ⟨hcl, hr⟩

/-- a B-side process sees the end of the link: `NB` does the same step, the reader of `NA` sees it too (if it has
    not already) -/
theorem sim_B_recvNone (h : S.OK) (s sA sB : St L V) (got : List V) (p : Nat) (k : Option V → L)
    (hS : Sim S ys s sA sB got) (hB : S.isA p = false)
    (hf : (s.procs p).2 = none) (ha : S.N.act p (s.procs p).1 = .recv S.c k) (hcq : s.chans S.c = ([], true))
    (hFl : FlagOK S ⟨upd s.procs p (k none, none), upd s.chans S.c ([], true)⟩) :
    ∃ tA sA' sB', run S.NA tA sA = some sA' ∧ step S.NB p sB = some sB' ∧
      Sim S ys ⟨upd s.procs p (k none, none), upd s.chans S.c ([], true)⟩ sA' sB' got := by
  have hsB := fired_step S.NB p sB _ (Fired.recvNone S.c k (by rw [hS.procB p hB]; exact hf)
    (by rw [hS.procB p hB, h.actNB p _ hB]; exact ha) (by rw [hS.linkB]; exact hcq))
  have hprd : S.prd ≠ p := isA_ne S S.prd p h.prdA hB
  -- everything except the A-side of the relation
  have common : ∀ sA', (∀ q, S.isA q = true → sA'.procs q = sA.procs q) →
      (∀ e, S.chA e → sA'.chans e = sA.chans e) → sA'.chans S.c = ([], true) → InvA S sA' got →
      Sim S ys ⟨upd s.procs p (k none, none), upd s.chans S.c ([], true)⟩ sA'
        ⟨upd sB.procs p (k none, none), upd sB.chans S.c ([], true)⟩ got := by
    intro sA' e1 e2 e3 e4
    refine ⟨hFl, ?_, ?_, ?_, e4, ?_, ?_, ?_, ?_, ?_⟩
    · intro q hq
      have hqp : q ≠ p := isA_ne S q p hq hB
      simp only [upd_other _ _ _ _ hqp]; rw [e1 q hq]; exact hS.procA q hq
    · intro e he
      have hec : e ≠ S.c := fun x => h.c_notA (x ▸ he)
      simp only [upd_other _ _ _ _ hec]; rw [e2 e he]; exact hS.chanA e he
    · simp only [upd_same]; exact e3
    · intro q hq
      by_cases hqp : q = p
      · subst hqp; simp [upd_same]
      · simp only [upd_other _ _ _ _ hqp]; exact hS.procB q hq
    · intro e he
      have hec : e ≠ S.c := fun x => h.c_notB (x ▸ he)
      simp only [upd_other _ _ _ _ hec]; exact hS.chanB e he
    · simp only [upd_same]
    · intro q hq hqp
      have hqp' : q ≠ p := isA_ne S q p hq hB
      simp only [upd_other _ _ _ _ hqp']; exact hS.idleB q hq hqp
    · apply prdAt_congr S ys s _ sB _ got _ _ _ hS.prd
      · simp only [upd_same]; exact hcq.symm
      · intro q hq
        have hqp : q ≠ p := isA_ne S q p hq hB
        simp only [upd_other _ _ _ _ hqp]
      · simp only [upd_other _ _ _ _ hprd]
  rcases hS.invA.1 with hSt | ⟨hDn, hcl⟩
  · have hsA := fired_step S.NA S.snk sA _ (Fired.recvNone S.c _ (by rw [hSt])
      (by rw [hSt]; exact h.sinkRun got) (by rw [hS.linkA]; exact hcq))
    refine ⟨[S.snk], _, _, by rw [run, hsA]; rfl, hsB, common _ ?_ ?_ ?_ ⟨Or.inr ⟨?_, ?_⟩, ?_⟩⟩
    · intro q hq
      have hqs : q ≠ S.snk := isA_ne S q S.snk hq h.snkB
      simp only [upd_other _ _ _ _ hqs]
    · intro e he
      have hec : e ≠ S.c := fun x => h.c_notA (x ▸ he)
      simp only [upd_other _ _ _ _ hec]
    · simp only [upd_same]
    · simp [upd_same]
    · simp only [upd_same]
    · intro q hq hqs; simp only [upd_other _ _ _ _ hqs]; exact hS.invA.2 q hq hqs
  · exact ⟨[], sA, _, rfl, hsB, common sA (fun _ _ => rfl) (fun _ _ => rfl) hcl hS.invA⟩


/-- the parts of the relation that do not depend on the kind of link operation, for a step of the A-side process
    `p` in `N` and `NA`, and of the producer in `NB`, all three on the link -/
theorem sim_A_link_common (h : S.OK) (s sA sB : St L V) (got : List V) (p : Nat) (ps' : PS L) (cs' : CS V)
    (psA psB : PS L) (hS : Sim S ys s sA sB got) (hA : S.isA p = true) (hpsA : psA = ps')
    (hFl : FlagOK S ⟨upd s.procs p ps', upd s.chans S.c cs'⟩)
    (hI : InvA S ⟨upd sA.procs p psA, upd sA.chans S.c cs'⟩ got)
    (hP : PrdAt S ys ⟨upd s.procs p ps', upd s.chans S.c cs'⟩ ⟨upd sB.procs S.prd psB, upd sB.chans S.c cs'⟩ got) :
    Sim S ys ⟨upd s.procs p ps', upd s.chans S.c cs'⟩ ⟨upd sA.procs p psA, upd sA.chans S.c cs'⟩
      ⟨upd sB.procs S.prd psB, upd sB.chans S.c cs'⟩ got := by
  subst hpsA
  refine ⟨hFl, ?_, ?_, ?_, hI, ?_, ?_, ?_, ?_, hP⟩
  · intro q hq
    by_cases hqp : q = p
    · subst hqp; simp [upd_same]
    · simp only [upd_other _ _ _ _ hqp]; exact hS.procA q hq
  · intro e he
    have hec : e ≠ S.c := fun x => h.c_notA (x ▸ he)
    simp only [upd_other _ _ _ _ hec]; exact hS.chanA e he
  · simp only [upd_same]
  · intro q hq
    have hqp : q ≠ p := fun e => (isA_ne S p q hA hq) e.symm
    have hqr : q ≠ S.prd := fun e => (isA_ne S S.prd q h.prdA hq) e.symm
    simp only [upd_other _ _ _ _ hqp, upd_other _ _ _ _ hqr]; exact hS.procB q hq
  · intro e he
    have hec : e ≠ S.c := fun x => h.c_notB (x ▸ he)
    simp only [upd_other _ _ _ _ hec]; exact hS.chanB e he
  · simp only [upd_same]
  · intro q hq hqp
    simp only [upd_other _ _ _ _ hqp]; exact hS.idleB q hq hqp

/-- the producer does not wait when an A-side process is about to send on / close the link -/
theorem prd_not_waiting (s sB : St L V) (got : List V) (p : Nat) (hN : NoConflict S.N s)
    (hP : PrdAt S ys s sB got) (hf : (s.procs p).2 = none) (hW : WritesLink S s p) :
    (sB.procs S.prd).2 = none := by
  rcases hP.2.1 with h0 | ⟨_, q, _, hq'⟩
  · exact h0
  · have hpq : p ≠ q := fun e => by rw [e, hq'] at hf; simp at hf
    exact (two_writers S s hN p q hpq hW (Or.inl hq')).elim

/-- an A-side process sends on the link: `NA` does the same step, the producer of `NB` sends the same value -/
theorem sim_A_send (h : S.OK) (s sA sB : St L V) (got : List V) (p : Nat) (v : V) (k : L) (q : List V)
    (hS : Sim S ys s sA sB got) (hN : NoConflict S.N s) (hA : S.isA p = true)
    (hPref : ∀ sA', step S.NA p sA = some sA' → PrefOK S ys sA')
    (hf : (s.procs p).2 = none) (ha : S.N.act p (s.procs p).1 = .send S.c v k) (hcq : s.chans S.c = (q, false))
    (hl : q.length < max 1 (S.N.cap S.c))
    (hFl : FlagOK S ⟨upd s.procs p (k, if S.N.cap S.c = 0 then some S.c else none), upd s.chans S.c (q ++ [v], false)⟩) :
    ∃ sA' sB', step S.NA p sA = some sA' ∧ step S.NB S.prd sB = some sB' ∧
      Sim S ys ⟨upd s.procs p (k, if S.N.cap S.c = 0 then some S.c else none), upd s.chans S.c (q ++ [v], false)⟩
        sA' sB' got := by
  have hsA := fired_step S.NA p sA _ (Fired.send S.c v k q (by rw [hS.procA p hA]; exact hf)
    (by rw [hS.procA p hA, h.actNA p _ hA]; exact ha) (by rw [hS.linkA]; exact hcq) (by rw [h.capA]; exact hl))
  rw [h.capA] at hsA
  have hpsnk : p ≠ S.snk := isA_ne S p S.snk hA h.snkB
  obtain ⟨g', _, hI', _, _, hg⟩ := stepA_inv S h sA _ got p hS.invA hsA
  rw [hg hpsnk] at hI'
  obtain ⟨⟨r, e'⟩, _⟩ := hPref _ hsA got hI'
  simp only [upd_same] at e'
  have hW : WritesLink S s p := Or.inr ⟨hf, Or.inl ⟨v, k, ha⟩⟩
  have h0 := prd_not_waiting S ys s sB got p hN hS.prd hf hW
  obtain ⟨h1, h2, h3⟩ := hS.prd
  rw [hcq] at h3
  have h3' : ∃ rem, (sB.procs S.prd).1 = S.prodSt rem ∧ got ++ q ++ rem = ys := by
    rcases h3 with ⟨_, rem, hr, e⟩ | ⟨hcl, _⟩
    · exact ⟨rem, hr, e⟩
    · simp at hcl
  obtain ⟨rem, hr, e⟩ := h3'
  have e2 : (got ++ q) ++ rem = (got ++ q) ++ (v :: r) := by rw [e, ← e']; simp
  have hrem : rem = v :: r := List.append_cancel_left e2
  have hsB := fired_step S.NB S.prd sB _ (Fired.send S.c v (S.prodSt r) q h0
    (by rw [hr, hrem]; exact h.prodSend v r) (by rw [hS.linkB]; exact hcq) (by rw [h.capB]; exact hl))
  rw [h.capB] at hsB
  refine ⟨_, _, hsA, hsB, sim_A_link_common S ys h s sA sB got p _ _ _ _ hS hA rfl hFl hI' ⟨?_, ?_, ?_⟩⟩
  · intro q' hq' hq''
    by_cases hqp : q' = p
    · subst hqp; simp only [upd_same] at hq'' ⊢; exact hq''
    · simp only [upd_other _ _ _ _ hqp] at hq''
      exact (two_writers S s hN p q' (fun e => hqp e.symm) hW (Or.inl hq'')).elim
  · by_cases hc0 : S.N.cap S.c = 0
    · right; exact ⟨by simp [upd_same, hc0], p, hA, by simp [upd_same, hc0]⟩
    · left; simp [upd_same, hc0]
  · left; exact ⟨by simp [upd_same], r, by simp [upd_same], by simp only [upd_same]; exact e'⟩

/-- an A-side process closes the link: `NA` does the same step, the producer of `NB` (which has nothing left to
    send) closes too -/
theorem sim_A_close (h : S.OK) (s sA sB : St L V) (got : List V) (p : Nat) (k : L) (q : List V)
    (hS : Sim S ys s sA sB got) (hN : NoConflict S.N s) (hA : S.isA p = true)
    (hPref : ∀ sA', step S.NA p sA = some sA' → PrefOK S ys sA')
    (hf : (s.procs p).2 = none) (ha : S.N.act p (s.procs p).1 = .close S.c k) (hcq : s.chans S.c = (q, false))
    (hFl : FlagOK S ⟨upd s.procs p (k, none), upd s.chans S.c (q, true)⟩) :
    ∃ sA' sB', step S.NA p sA = some sA' ∧ step S.NB S.prd sB = some sB' ∧
      Sim S ys ⟨upd s.procs p (k, none), upd s.chans S.c (q, true)⟩ sA' sB' got := by
  have hsA := fired_step S.NA p sA _ (Fired.close S.c k q (by rw [hS.procA p hA]; exact hf)
    (by rw [hS.procA p hA, h.actNA p _ hA]; exact ha) (by rw [hS.linkA]; exact hcq))
  have hpsnk : p ≠ S.snk := isA_ne S p S.snk hA h.snkB
  obtain ⟨g', _, hI', _, _, hg⟩ := stepA_inv S h sA _ got p hS.invA hsA
  rw [hg hpsnk] at hI'
  obtain ⟨_, e'⟩ := hPref _ hsA got hI'
  simp only [upd_same] at e'
  have e' := e' trivial
  have hW : WritesLink S s p := Or.inr ⟨hf, Or.inr ⟨k, ha⟩⟩
  have h0 := prd_not_waiting S ys s sB got p hN hS.prd hf hW
  obtain ⟨h1, h2, h3⟩ := hS.prd
  rw [hcq] at h3
  have h3' : ∃ rem, (sB.procs S.prd).1 = S.prodSt rem ∧ got ++ q ++ rem = ys := by
    rcases h3 with ⟨_, rem, hr, e⟩ | ⟨hcl, _⟩
    · exact ⟨rem, hr, e⟩
    · simp at hcl
  obtain ⟨rem, hr, e⟩ := h3'
  have e2 : (got ++ q) ++ rem = (got ++ q) ++ [] := by rw [e, List.append_nil, e']
  have hrem : rem = [] := List.append_cancel_left e2
  have hsB := fired_step S.NB S.prd sB _ (Fired.close S.c S.prodDone q h0
    (by rw [hr, hrem]; exact h.prodClose) (by rw [hS.linkB]; exact hcq))
  refine ⟨_, _, hsA, hsB, sim_A_link_common S ys h s sA sB got p _ _ _ _ hS hA rfl hFl hI' ⟨?_, ?_, ?_⟩⟩
  · intro q' hq' hq''
    by_cases hqp : q' = p
    · subst hqp; simp [upd_same] at hq''
    · simp only [upd_other _ _ _ _ hqp] at hq''
      exact (two_writers S s hN p q' (fun e => hqp e.symm) hW (Or.inl hq'')).elim
  · left; simp [upd_same]
  · right; exact ⟨by simp [upd_same], by simp [upd_same]⟩

/-- an A-side process completes a hand-over on the link: so do `NA` and the producer of `NB` -/
theorem sim_A_sync (h : S.OK) (s sA sB : St L V) (got : List V) (p : Nat) (cl : Bool)
    (hS : Sim S ys s sA sB got) (hN : NoConflict S.N s) (hA : S.isA p = true)
    (hf : (s.procs p).2 = some S.c) (hcq : s.chans S.c = ([], cl))
    (hFl : FlagOK S ⟨upd s.procs p ((s.procs p).1, none), upd s.chans S.c ([], cl)⟩) :
    ∃ sA' sB', step S.NA p sA = some sA' ∧ step S.NB S.prd sB = some sB' ∧
      Sim S ys ⟨upd s.procs p ((s.procs p).1, none), upd s.chans S.c ([], cl)⟩ sA' sB' got := by
  have hsA := fired_step S.NA p sA _ (Fired.sync S.c cl (by rw [hS.procA p hA]; exact hf)
    (by rw [hS.linkA]; exact hcq))
  have hpsnk : p ≠ S.snk := isA_ne S p S.snk hA h.snkB
  obtain ⟨g', _, hI', _, _, hg⟩ := stepA_inv S h sA _ got p hS.invA hsA
  rw [hg hpsnk] at hI'
  have hW : WritesLink S s p := Or.inl hf
  obtain ⟨h1, h2, h3⟩ := hS.prd
  have hsB := fired_step S.NB S.prd sB _ (Fired.sync S.c cl (h1 p hA hf) (by rw [hS.linkB]; exact hcq))
  refine ⟨_, _, hsA, hsB, sim_A_link_common S ys h s sA sB got p _ _ _ _ hS hA
    (by rw [hS.procA p hA]) hFl hI' ⟨?_, ?_, ?_⟩⟩
  · intro q' hq' hq''
    by_cases hqp : q' = p
    · subst hqp; simp [upd_same] at hq''
    · simp only [upd_other _ _ _ _ hqp] at hq''
      exact (two_writers S s hN p q' (fun e => hqp e.symm) hW (Or.inl hq'')).elim
  · left; simp [upd_same]
  · rw [hcq] at h3
    simpa [upd_same] using h3


theorem run_one (N : Network L V) (p : Nat) (s s' : St L V) (h : step N p s = some s') : run N [p] s = some s' := by
  rw [run, h]; rfl

/-- **Simulation, one step**: every step of `N` is matched by steps of `NA` and `NB`, at least one in total -/
theorem sim_step (h : S.OK) (s sA sB s' : St L V) (got : List V) (p : Nat) (hS : Sim S ys s sA sB got)
    (hN : NoConflict S.N s) (hPref : ∀ q sA', step S.NA q sA = some sA' → PrefOK S ys sA')
    (hs : step S.N p s = some s') :
    ∃ tA tB sA' sB' got', run S.NA tA sA = some sA' ∧ run S.NB tB sB = some sB' ∧ Sim S ys s' sA' sB' got' ∧
      1 ≤ tA.length + tB.length := by
  have hFl := flagOK_step S h s s' p hS.flag hs
  have hF := step_fired S.N p s s' hs
  by_cases hA : S.isA p = true
  · -- A-side
    have other : ∀ (d : Nat) (ps' : PS L) (cs' : CS V), (opOf S.N p (s.procs p)).chan = some d → d ≠ S.c →
        (ps'.2 = none ∨ ps'.2 = some d) → s' = ⟨upd s.procs p ps', upd s.chans d cs'⟩ →
        ∃ tA tB sA' sB' got', run S.NA tA sA = some sA' ∧ run S.NB tB sB = some sB' ∧ Sim S ys s' sA' sB' got' ∧
          1 ≤ tA.length + tB.length := by
      intro d ps' cs' hc hd hps e
      subst e
      obtain ⟨sA', h1, h2⟩ := sim_A_other S ys h s sA sB got p d ps' cs' hS hA hc hd hps hs hFl
      exact ⟨[p], [], sA', sB, got, run_one _ _ _ _ h1, rfl, h2, by simp⟩
    have link : ∀ sA' sB', step S.NA p sA = some sA' → step S.NB S.prd sB = some sB' → Sim S ys s' sA' sB' got →
        ∃ tA tB sA' sB' got', run S.NA tA sA = some sA' ∧ run S.NB tB sB = some sB' ∧ Sim S ys s' sA' sB' got' ∧
          1 ≤ tA.length + tB.length :=
      fun sA' sB' h1 h2 h3 => ⟨[p], [S.prd], sA', sB', got, run_one _ _ _ _ h1, run_one _ _ _ _ h2, h3, by simp⟩
    cases hF with
    | recvSome d k v rest cl hf ha hc =>
      have hd : d ≠ S.c := fun e => h.c_notA (e ▸ h.recvA p _ d k hA ha)
      exact other d _ _ (by unfold opOf; simp [hf, ha, Op.chan]) hd (Or.inl rfl) rfl
    | recvNone d k hf ha hc =>
      have hd : d ≠ S.c := fun e => h.c_notA (e ▸ h.recvA p _ d k hA ha)
      exact other d _ _ (by unfold opOf; simp [hf, ha, Op.chan]) hd (Or.inl rfl) rfl
    | send d v k q hf ha hc hl =>
      by_cases hd : d = S.c
      · subst hd
        obtain ⟨sA', sB', h1, h2, h3⟩ := sim_A_send S ys h s sA sB got p v k q hS hN hA (hPref p) hf ha hc hl hFl
        exact link sA' sB' h1 h2 h3
      · refine other d _ _ (by unfold opOf; simp [hf, ha, Op.chan]) hd ?_ rfl
        by_cases h0 : S.N.cap d = 0 <;> simp [h0]
    | close d k q hf ha hc =>
      by_cases hd : d = S.c
      · subst hd
        obtain ⟨sA', sB', h1, h2, h3⟩ := sim_A_close S ys h s sA sB got p k q hS hN hA (hPref p) hf ha hc hFl
        exact link sA' sB' h1 h2 h3
      · exact other d _ _ (by unfold opOf; simp [hf, ha, Op.chan]) hd (Or.inl rfl) rfl
    | sync d cl hf hc =>
      by_cases hd : d = S.c
      · subst hd
        obtain ⟨sA', sB', h1, h2, h3⟩ := sim_A_sync S ys h s sA sB got p cl hS hN hA hf hc hFl
        exact link sA' sB' h1 h2 h3
      · exact other d _ _ (by rw [opOf_flag S.N p _ d hf]; simp [Op.chan]) hd (Or.inl rfl) rfl
  · -- B-side
    have hB : S.isA p = false := by cases hx : S.isA p <;> simp_all
    have other : ∀ (d : Nat) (ps' : PS L) (cs' : CS V), (opOf S.N p (s.procs p)).chan = some d → S.chB d →
        s' = ⟨upd s.procs p ps', upd s.chans d cs'⟩ →
        ∃ tA tB sA' sB' got', run S.NA tA sA = some sA' ∧ run S.NB tB sB = some sB' ∧ Sim S ys s' sA' sB' got' ∧
          1 ≤ tA.length + tB.length := by
      intro d ps' cs' hc hd e
      subst e
      obtain ⟨sB', h1, h2⟩ := sim_B_other S ys h s sA sB got p d ps' cs' hS hB hc hd hs hFl
      exact ⟨[], [p], sA, sB', got, rfl, run_one _ _ _ _ h1, h2, by simp⟩
    cases hF with
    | recvSome d k v rest cl hf ha hc =>
      rcases h.recvB p _ d k hB ha with hd | hd
      · exact other d _ _ (by unfold opOf; simp [hf, ha, Op.chan]) hd rfl
      · subst hd
        obtain ⟨sA', sB', h1, h2, h3⟩ := sim_B_recvSome S ys h s sA sB got p k v rest cl hS hB hf ha hc hFl
        exact ⟨[S.snk], [p], sA', sB', _, run_one _ _ _ _ h1, run_one _ _ _ _ h2, h3, by simp⟩
    | recvNone d k hf ha hc =>
      rcases h.recvB p _ d k hB ha with hd | hd
      · exact other d _ _ (by unfold opOf; simp [hf, ha, Op.chan]) hd rfl
      · subst hd
        obtain ⟨tA, sA', sB', h1, h2, h3⟩ := sim_B_recvNone S ys h s sA sB got p k hS hB hf ha hc hFl
        exact ⟨tA, [p], sA', sB', _, h1, run_one _ _ _ _ h2, h3, by simp⟩
    | send d v k q hf ha hc hl =>
      exact other d _ _ (by unfold opOf; simp [hf, ha, Op.chan]) (h.sendB p _ d v k hB ha) rfl
    | close d k q hf ha hc =>
      exact other d _ _ (by unfold opOf; simp [hf, ha, Op.chan]) (h.closeB p _ d k hB ha) rfl
    | sync d cl hf hc =>
      exact other d _ _ (by rw [opOf_flag S.N p _ d hf]; simp [Op.chan]) ((hS.flag p d hf).2 hB) rfl

/-- **Simulation, runs**: every run of `N` is matched by runs of `NA` and `NB` whose lengths add up to at least its
    length -/
theorem sim_run (h : S.OK) (t : List Nat) (s sA sB s' : St L V) (got : List V) (hS : Sim S ys s sA sB got)
    (hSafe : Safe S.N s) (hPref : ∀ t' sA', run S.NA t' sA = some sA' → PrefOK S ys sA')
    (hr : run S.N t s = some s') :
    ∃ tA tB sA' sB' got', run S.NA tA sA = some sA' ∧ run S.NB tB sB = some sB' ∧ Sim S ys s' sA' sB' got' ∧
      t.length ≤ tA.length + tB.length := by
  induction t generalizing s sA sB got with
  | nil =>
    simp only [run, Option.some.injEq] at hr; subst hr
    exact ⟨[], [], sA, sB, got, rfl, rfl, hS, by simp⟩
  | cons p rest ih =>
    simp only [run] at hr
    cases hp : step S.N p s with
    | none => simp [hp] at hr
    | some a =>
      simp only [hp, Option.bind_some] at hr
      obtain ⟨tA1, tB1, sA1, sB1, g1, rA1, rB1, hS1, l1⟩ := sim_step S ys h s sA sB a got p hS
        (safe_here S.N s hSafe) (fun q x hx => hPref [q] x (run_one _ _ _ _ hx)) hp
      obtain ⟨tA2, tB2, sA2, sB2, g2, rA2, rB2, hS2, l2⟩ := ih a sA1 sB1 g1 hS1 (safe_step S.N s a p hSafe hp)
        (fun t' x hx => hPref (tA1 ++ t') x (by rw [run_append, rA1]; simpa using hx)) hr
      refine ⟨tA1 ++ tA2, tB1 ++ tB2, sA2, sB2, g2, ?_, ?_, hS2, ?_⟩
      · rw [run_append, rA1]; simpa using rA2
      · rw [run_append, rB1]; simpa using rB2
      · simp only [List.length_cons, List.length_append]; omega

/-- what `NA` guarantees: in every state it can reach, the values delivered on the link are a prefix of `ys`, and all
    of `ys` once the link is closed (from the determinacy of `NA`) -/
theorem prefOK_of_reach (h : S.OK) (sA0 eA : St L V) (tA0 : List Nat) (hSafeA : Safe S.NA sA0)
    (hrun : run S.NA tA0 sA0 = some eA) (hH : AllHalted S.NA eA) (hcol : S.col (eA.procs S.snk).1 = ys)
    (t : List Nat) (sA : St L V) (hr : run S.NA t sA0 = some sA) : PrefOK S ys sA := by
  intro got hI
  obtain ⟨t3, h3, _⟩ := determinacy' S.NA tA0 t sA0 eA sA hSafeA hrun (allHalted_terminal S.NA eA hH) hr
  obtain ⟨g', sfx, hI', e, hc⟩ := runA_inv S h t3 sA eA got hI h3
  have hend : g' = ys ∧ eA.chans S.c = ([], true) := by
    rcases hI'.1 with hSt | ⟨hDn, hcl⟩
    · have := (hH S.snk).2
      rw [hSt] at this; simp only at this
      rw [h.sinkRun g'] at this; simp at this
    · rw [hDn] at hcol; simp only at hcol
      rw [h.colDone] at hcol
      exact ⟨hcol, hcl⟩
  obtain ⟨rfl, hq⟩ := hend
  rw [hq] at e
  simp only [List.append_nil] at e
  refine ⟨⟨sfx, e.symm⟩, fun hcl => ?_⟩
  obtain ⟨rfl, _⟩ := hc hcl
  simpa using e.symm


/-! ### terminal states -/

/-- if all runs from `s` are bounded, one process run alone eventually blocks -/
theorem solo_max (N : Network L V) (p : Nat) (s : St L V) (B : Nat)
    (hB : ∀ t s', run N t s = some s' → t.length ≤ B) :
    ∃ n s', run N (List.replicate n p) s = some s' ∧ step N p s' = none := by
  suffices H : ∀ k n s', run N (List.replicate n p) s = some s' → B - n ≤ k →
      ∃ n s', run N (List.replicate n p) s = some s' ∧ step N p s' = none from H B 0 s rfl (by omega)
  intro k
  induction k with
  | zero =>
    intro n s' hr hk
    cases hp : step N p s' with
    | none => exact ⟨n, s', hr, hp⟩
    | some a =>
      have hr' : run N (List.replicate (n + 1) p) s = some a := by
        rw [List.replicate_succ', run_append, hr]; simpa using run_one N p s' a hp
      have := hB _ _ hr'
      simp only [List.length_replicate] at this
      omega
  | succ k ih =>
    intro n s' hr hk
    cases hp : step N p s' with
    | none => exact ⟨n, s', hr, hp⟩
    | some a =>
      have hr' : run N (List.replicate (n + 1) p) s = some a := by
        rw [List.replicate_succ', run_append, hr]; simpa using run_one N p s' a hp
      have := hB _ _ hr'
      simp only [List.length_replicate] at this
      exact ih (n + 1) a hr' (by omega)

/-- the producer running alone touches only itself and the link, and only adds to the link's queue -/
theorem solo_prd (h : S.OK) (n : Nat) (sB sB' : St L V)
    (hfl : (sB.procs S.prd).2 = none ∨ (sB.procs S.prd).2 = some S.c)
    (hr : run S.NB (List.replicate n S.prd) sB = some sB') :
    (∀ p, p ≠ S.prd → sB'.procs p = sB.procs p) ∧ (∀ d, d ≠ S.c → sB'.chans d = sB.chans d) ∧
    (∃ sfx, (sB'.chans S.c).1 = (sB.chans S.c).1 ++ sfx) := by
  induction n generalizing sB with
  | zero =>
    simp only [List.replicate, run, Option.some.injEq] at hr; subst hr
    exact ⟨fun _ _ => rfl, fun _ _ => rfl, [], by simp⟩
  | succ n ih =>
    simp only [List.replicate, run] at hr
    cases hp : step S.NB S.prd sB with
    | none => simp [hp] at hr
    | some a =>
      simp only [hp, Option.bind_some] at hr
      have one : (∀ p, p ≠ S.prd → a.procs p = sB.procs p) ∧ (∀ d, d ≠ S.c → a.chans d = sB.chans d) ∧
          (∃ sfx, (a.chans S.c).1 = (sB.chans S.c).1 ++ sfx) ∧
          ((a.procs S.prd).2 = none ∨ (a.procs S.prd).2 = some S.c) := by
        have hF := step_fired S.NB S.prd sB a hp
        cases hF with
        | recvSome d k v rest cl hf ha hc => exact absurd ha (h.prodRecv _ d k)
        | recvNone d k hf ha hc => exact absurd ha (h.prodRecv _ d k)
        | send d v k q hf ha hc hl =>
          have hd := h.prodSendC _ d v k ha
          subst hd
          refine ⟨fun p hp' => by simp only [upd_other _ _ _ _ hp'], fun d hd => by simp only [upd_other _ _ _ _ hd],
            ⟨[v], by simp [upd_same, hc]⟩, ?_⟩
          by_cases h0 : S.NB.cap S.c = 0 <;> simp [upd_same, h0]
        | close d k q hf ha hc =>
          have hd := h.prodCloseC _ d k ha
          subst hd
          exact ⟨fun p hp' => by simp only [upd_other _ _ _ _ hp'], fun d hd => by simp only [upd_other _ _ _ _ hd],
            ⟨[], by simp [upd_same, hc]⟩, by simp [upd_same]⟩
        | sync d cl hf hc =>
          have hd : d = S.c := by
            rcases hfl with x | x <;> rw [x] at hf <;> simp at hf
            exact hf.symm
          subst hd
          exact ⟨fun p hp' => by simp only [upd_other _ _ _ _ hp'], fun d hd => by simp only [upd_other _ _ _ _ hd],
            ⟨[], by simp [upd_same, hc]⟩, by simp [upd_same]⟩
      obtain ⟨o1, o2, ⟨x1, o3⟩, o4⟩ := one
      obtain ⟨i1, i2, ⟨x2, i3⟩⟩ := ih a o4 hr
      refine ⟨fun p hp' => (i1 p hp').trans (o1 p hp'), fun d hd => (i2 d hd).trans (o2 d hd), x1 ++ x2, ?_⟩
      rw [i3, o3]; simp

/-- a blocked A-side process of `N` is blocked in `NA` -/
theorem stuckA (h : S.OK) (s sA sB : St L V) (got : List V) (hS : Sim S ys s sA sB got) (p : Nat)
    (hA : S.isA p = true) (hs : step S.N p s = none) : step S.NA p sA = none := by
  apply (step_transfer S.N S.NA p s sA (hS.procA p hA) (h.actNA p _ hA) h.capA ?_).1 hs
  intro d hc
  rcases classA S h s hS.flag p d hA hc with hd | hd
  · exact hS.chanA d hd
  · rw [hd]; exact hS.linkA

/-- a blocked B-side process of `N` is blocked in `NB`, in any state of `NB` that agrees with `s` on that process and
    on the B-side channels — and on the link, unless the link's queue in `s` is non-empty -/
theorem stuckB (h : S.OK) (s sB' : St L V) (hFl : FlagOK S s) (p : Nat) (hB : S.isA p = false)
    (hp : sB'.procs p = s.procs p) (hch : ∀ d, S.chB d → sB'.chans d = s.chans d)
    (hlink : sB'.chans S.c = s.chans S.c ∨ (s.chans S.c).1 ≠ [])
    (hs : step S.N p s = none) : step S.NB p sB' = none := by
  apply (step_transfer S.N S.NB p s sB' hp (h.actNB p _ hB) h.capB ?_).1 hs
  intro d hc
  rcases classB S h s hFl p d hB hc with hd | ⟨hd, hf, k, ha⟩
  · exact hch d hd
  · subst hd
    rcases hlink with e | hne
    · exact e
    · rcases hcq : s.chans S.c with ⟨q, cl⟩
      cases q with
      | nil => rw [hcq] at hne; simp at hne
      | cons v rest =>
        have := fired_step S.N p s _ (Fired.recvSome S.c k v rest cl hf ha hcq)
        rw [hs] at this; simp at this


/-- **Terminal states of `N` are clean.**  A terminal state of `N` related to reachable states of `NA` and `NB`
    has every process halted, the A-side in the final local states of `NA`, the B-side in those of `NB`. -/
theorem terminal_clean (h : S.OK) (s sA sB : St L V) (got : List V) (hS : Sim S ys s sA sB got)
    (hT : Terminal S.N s)
    (sA0 eA : St L V) (tA0 tA : List Nat) (hSafeA : Safe S.NA sA0) (hrunA : run S.NA tA0 sA0 = some eA)
    (hHA : AllHalted S.NA eA) (hrA : run S.NA tA sA0 = some sA)
    (sB0 eB : St L V) (tB0 tB : List Nat) (hSafeB : Safe S.NB sB0) (hrunB : run S.NB tB0 sB0 = some eB)
    (hHB : AllHalted S.NB eB) (hdrain : (eB.chans S.c).1 = []) (hrB : run S.NB tB sB0 = some sB) :
    AllHalted S.N s ∧ (∀ p, S.isA p = true → s.procs p = eA.procs p) ∧
      (∀ p, S.isA p = false → s.procs p = eB.procs p) := by
  have hTA := allHalted_terminal S.NA eA hHA
  have hTB := allHalted_terminal S.NB eB hHB
  -- idle indices
  have idleA : ∀ (x : St L V) (g : List V), InvA S x g → ∀ p, S.isA p = false → p ≠ S.snk → step S.NA p x = none :=
    fun x g hI p hB hp => halted_no_step S.NA p x (hI.2 p hB hp) (h.haltNA p _ hB hp)
  have idleB : ∀ (x : St L V), (∀ p, S.isA p = true → p ≠ S.prd → (x.procs p).2 = none) →
      ∀ p, S.isA p = true → p ≠ S.prd → step S.NB p x = none :=
    fun x hx p hA hp => halted_no_step S.NB p x (hx p hA hp) (h.haltNB p _ hA hp)
  rcases hcq : s.chans S.c with ⟨q, cl⟩
  cases q with
  | nil =>
    cases cl with
    | false =>
      -- link open and empty: `NA` would be stuck with its reader still waiting
      exfalso
      have hSt : sA.procs S.snk = (S.sinkSt got, none) := by
        rcases hS.invA.1 with x | ⟨_, x⟩
        · exact x
        · rw [hS.linkA, hcq] at x; simp at x
      have hsnk : step S.NA S.snk sA = none := by
        cases hp : step S.NA S.snk sA with
        | none => rfl
        | some a =>
          exfalso
          have hF := step_fired S.NA S.snk sA a hp
          have hlk : sA.chans S.c = ([], false) := by rw [hS.linkA, hcq]
          cases hF with
          | recvSome d k v rest cl hf ha hc =>
            rw [hSt] at ha; simp only at ha; rw [h.sinkRun got] at ha
            simp only [Act.recv.injEq] at ha
            obtain ⟨rfl, _⟩ := ha
            rw [hlk] at hc; simp at hc
          | recvNone d k hf ha hc =>
            rw [hSt] at ha; simp only at ha; rw [h.sinkRun got] at ha
            simp only [Act.recv.injEq] at ha
            obtain ⟨rfl, _⟩ := ha
            rw [hlk] at hc; simp at hc
          | send d v k q hf ha hc hl => rw [hSt] at ha; simp only at ha; rw [h.sinkRun got] at ha; simp at ha
          | close d k q hf ha hc => rw [hSt] at ha; simp only at ha; rw [h.sinkRun got] at ha; simp at ha
          | sync d cl hf hc => rw [hSt] at hf; simp at hf
      have hterm : Terminal S.NA sA := by
        intro p
        by_cases hA : S.isA p = true
        · exact stuckA S ys h s sA sB got hS p hA (hT p)
        · have hB : S.isA p = false := by cases hx : S.isA p <;> simp_all
          by_cases hp : p = S.snk
          · subst hp; exact hsnk
          · exact idleA sA got hS.invA p hB hp
      obtain ⟨e, _⟩ := terminal_unique' S.NA tA0 tA sA0 eA sA hSafeA hrunA hTA hrA hterm
      subst e
      have := (hHA S.snk).2
      rw [hSt] at this; simp only at this
      rw [h.sinkRun got] at this; simp at this
    | true =>
      -- link closed and empty: let the reader of `NA` see the end, then both components are terminal
      have hA2 : ∃ sA2 tA2, run S.NA tA2 sA0 = some sA2 ∧ Sim S ys s sA2 sB got ∧
          sA2.procs S.snk = (S.sinkDone got, none) := by
        rcases hS.invA.1 with hSt | ⟨hDn, hcl⟩
        · have hsA := fired_step S.NA S.snk sA _ (Fired.recvNone S.c _ (by rw [hSt])
            (by rw [hSt]; exact h.sinkRun got) (by rw [hS.linkA]; exact hcq))
          refine ⟨_, tA ++ [S.snk], by rw [run_append, hrA]; simpa using run_one _ _ _ _ hsA, ?_, by simp [upd_same]⟩
          refine ⟨hS.flag, ?_, ?_, ?_, ⟨Or.inr ⟨by simp [upd_same], by simp [upd_same]⟩, ?_⟩, hS.procB, hS.chanB,
            hS.linkB, hS.idleB, hS.prd⟩
          · intro q hq
            have hqs : q ≠ S.snk := isA_ne S q S.snk hq h.snkB
            simp only [upd_other _ _ _ _ hqs]; exact hS.procA q hq
          · intro e he
            have hec : e ≠ S.c := fun x => h.c_notA (x ▸ he)
            simp only [upd_other _ _ _ _ hec]; exact hS.chanA e he
          · simp only [upd_same]; exact hcq.symm
          · intro q hq hqs; simp only [upd_other _ _ _ _ hqs]; exact hS.invA.2 q hq hqs
        · exact ⟨sA, tA, hrA, hS, hDn⟩
      obtain ⟨sA2, tA2, hrA2, hS2, hDn⟩ := hA2
      have htermA : Terminal S.NA sA2 := by
        intro p
        by_cases hA : S.isA p = true
        · exact stuckA S ys h s sA2 sB got hS2 p hA (hT p)
        · have hB : S.isA p = false := by cases hx : S.isA p <;> simp_all
          by_cases hp : p = S.snk
          · subst hp
            exact halted_no_step S.NA S.snk sA2 (by rw [hDn]) (by rw [hDn]; exact h.sinkHalt got)
          · exact idleA sA2 got hS2.invA p hB hp
      obtain ⟨eqA, _⟩ := terminal_unique' S.NA tA0 tA2 sA0 eA sA2 hSafeA hrunA hTA hrA2 htermA
      subst eqA
      -- the A-side has halted
      have haltedA : ∀ p, S.isA p = true → (s.procs p).2 = none ∧ S.N.act p (s.procs p).1 = .halt := by
        intro p hA
        have := hHA p
        rw [hS2.procA p hA, h.actNA p _ hA] at this
        exact this
      -- the producer of `NB` has halted
      obtain ⟨_, p2, p3⟩ := hS2.prd
      have hpf : (sB.procs S.prd).2 = none := by
        rcases p2 with x | ⟨_, q', hq', hq''⟩
        · exact x
        · rw [(haltedA q' hq').1] at hq''; simp at hq''
      have hpd : (sB.procs S.prd).1 = S.prodDone := by
        rw [hcq] at p3
        rcases p3 with ⟨x, _⟩ | ⟨_, x⟩
        · simp at x
        · exact x
      have htermB : Terminal S.NB sB := by
        intro p
        by_cases hA : S.isA p = true
        · by_cases hp : p = S.prd
          · subst hp
            exact halted_no_step S.NB S.prd sB hpf (by rw [hpd]; exact h.prodHalt)
          · exact idleB sB hS2.idleB p hA hp
        · have hB : S.isA p = false := by cases hx : S.isA p <;> simp_all
          exact stuckB S h s sB hS2.flag p hB (hS2.procB p hB) hS2.chanB (Or.inl hS2.linkB) (hT p)
      obtain ⟨eqB, _⟩ := terminal_unique' S.NB tB0 tB sB0 eB sB hSafeB hrunB hTB hrB htermB
      subst eqB
      refine ⟨?_, fun p hA => (hS2.procA p hA).symm, fun p hB => (hS2.procB p hB).symm⟩
      intro p
      by_cases hA : S.isA p = true
      · exact haltedA p hA
      · have hB : S.isA p = false := by cases hx : S.isA p <;> simp_all
        have := hHB p
        rw [hS2.procB p hB, h.actNB p _ hB] at this
        exact this
  | cons v rest =>
    -- link not empty: nobody on the B-side is reading it; with the producer run until it blocks, `NB` would be
    -- terminal with a non-empty link
    exfalso
    have hbound : ∀ t x, run S.NB t sB = some x → t.length ≤ tB0.length := by
      intro t x hx
      have := no_longer_schedule' S.NB tB0 (tB ++ t) sB0 eB x hSafeB hrunB hTB
        (by rw [run_append, hrB]; simpa using hx)
      simp only [List.length_append] at this; omega
    obtain ⟨n, sB', hrn, hstuck⟩ := solo_max S.NB S.prd sB tB0.length hbound
    have hfl : (sB.procs S.prd).2 = none ∨ (sB.procs S.prd).2 = some S.c := by
      rcases hS.prd.2.1 with x | ⟨x, _⟩
      · exact Or.inl x
      · exact Or.inr x
    obtain ⟨k1, k2, ⟨sfx, k3⟩⟩ := solo_prd S h n sB sB' hfl hrn
    have htermB : Terminal S.NB sB' := by
      intro p
      by_cases hA : S.isA p = true
      · by_cases hp : p = S.prd
        · subst hp; exact hstuck
        · exact idleB sB' (fun q hq hqp => by rw [k1 q hqp]; exact hS.idleB q hq hqp) p hA hp
      · have hB : S.isA p = false := by cases hx : S.isA p <;> simp_all
        have hpp : p ≠ S.prd := fun e => (isA_ne S S.prd p h.prdA hB) e.symm
        refine stuckB S h s sB' hS.flag p hB ((k1 p hpp).trans (hS.procB p hB)) ?_ (Or.inr ?_) (hT p)
        · intro d hd
          have hdc : d ≠ S.c := fun x => h.c_notB (x ▸ hd)
          exact (k2 d hdc).trans (hS.chanB d hd)
        · rw [hcq]; simp
    obtain ⟨eqB, _⟩ := terminal_unique' S.NB tB0 (tB ++ List.replicate n S.prd) sB0 eB sB' hSafeB hrunB hTB
      (by rw [run_append, hrB]; simpa using hrn) htermB
    subst eqB
    rw [k3, hS.linkB, hcq] at hdrain
    simp at hdrain


/-! ### the composition theorem -/

/-- the three initial states correspond: nobody waits, the link is open and empty, `NA` starts with the A-side of
    `s0` and a fresh reader, `NB` with the B-side of `s0` and the producer loaded with `ys` -/
structure Init (s0 sA0 sB0 : St L V) : Prop where
  flags : ∀ p, (s0.procs p).2 = none
  link : s0.chans S.c = ([], false)
  procA : ∀ p, S.isA p = true → sA0.procs p = s0.procs p
  chanA : ∀ d, S.chA d → sA0.chans d = s0.chans d
  linkA : sA0.chans S.c = s0.chans S.c
  snk : sA0.procs S.snk = (S.sinkSt [], none)
  idleA : ∀ p, S.isA p = false → p ≠ S.snk → (sA0.procs p).2 = none
  procB : ∀ p, S.isA p = false → sB0.procs p = s0.procs p
  chanB : ∀ d, S.chB d → sB0.chans d = s0.chans d
  linkB : sB0.chans S.c = s0.chans S.c
  prd : sB0.procs S.prd = (S.prodSt ys, none)
  idleB : ∀ p, S.isA p = true → p ≠ S.prd → (sB0.procs p).2 = none

theorem sim_init (s0 sA0 sB0 : St L V) (hI : Init S ys s0 sA0 sB0) : Sim S ys s0 sA0 sB0 [] := by
  refine ⟨?_, hI.procA, hI.chanA, hI.linkA, ⟨Or.inl hI.snk, hI.idleA⟩, hI.procB, hI.chanB, hI.linkB, hI.idleB,
    ?_, ?_, ?_⟩
  · intro p d hpd; rw [hI.flags p] at hpd; simp at hpd
  · intro p _ hp; rw [hI.flags p] at hp; simp at hp
  · left; rw [hI.prd]
  · left; rw [hI.link, hI.prd]; exact ⟨rfl, ys, rfl, by simp⟩

/-- a network all of whose runs are bounded has a run to a terminal state -/
theorem exists_terminal_of_bounded (N : Network L V) (s : St L V) (B : Nat)
    (hB : ∀ t s', run N t s = some s' → t.length ≤ B) : ∃ t e, run N t s = some e ∧ Terminal N e := by
  suffices H : ∀ k t s', run N t s = some s' → B - t.length ≤ k → ∃ t e, run N t s = some e ∧ Terminal N e from
    H B [] s rfl (by simp)
  intro k
  induction k with
  | zero =>
    intro t s' hr hk
    by_cases hT : Terminal N s'
    · exact ⟨t, s', hr, hT⟩
    · exfalso
      have : ∃ p, step N p s' ≠ none := Classical.not_forall.mp hT
      obtain ⟨p, hp⟩ := this
      cases hs : step N p s' with
      | none => exact hp hs
      | some a =>
        have := hB (t ++ [p]) a (by rw [run_append, hr]; simpa using run_one N p s' a hs)
        simp only [List.length_append, List.length_cons, List.length_nil] at this
        omega
  | succ k ih =>
    intro t s' hr hk
    by_cases hT : Terminal N s'
    · exact ⟨t, s', hr, hT⟩
    · have : ∃ p, step N p s' ≠ none := Classical.not_forall.mp hT
      obtain ⟨p, hp⟩ := this
      cases hs : step N p s' with
      | none => exact absurd hs hp
      | some a =>
        have hr' : run N (t ++ [p]) s = some a := by rw [run_append, hr]; simpa using run_one N p s' a hs
        have := hB _ _ hr'
        simp only [List.length_append, List.length_cons, List.length_nil] at this
        exact ih (t ++ [p]) a hr' (by simp only [List.length_append, List.length_cons, List.length_nil]; omega)

/-- **Sequential composition.**
    Hypotheses: the wiring `S.OK`; corresponding initial states; `N`, `NA`, `NB` free of conflicts on channel ends
    (`Safe`); ONE run of `NA` (the A-side with an independent reader on the link) to a state with every process halted
    in which the reader holds `ys`; ONE run of `NB` (a plain producer of `ys` on the link, and the B-side) to a state
    with every process halted and the link drained.
    Conclusions, for the network `N` in which the B-side reads the link directly:
    (1) no run is longer than the two observed runs together (no infinite execution);
    (2) every terminal state reachable has every process halted, the A-side processes in the final local states of
        the `NA` run and the B-side processes in the final local states of the `NB` run (in particular every value the
        B-side delivers is the one it delivers when fed by the plain producer);
    (3) such a terminal state is reachable. -/
theorem sequential_composition_partial (h : S.OK) (s0 sA0 sB0 eA eB : St L V) (tA0 tB0 : List Nat)
    (hI : Init S ys s0 sA0 sB0)
    (hSafeN : Safe S.N s0) (hSafeA : Safe S.NA sA0) (hSafeB : Safe S.NB sB0)
    (hrunA : run S.NA tA0 sA0 = some eA) (hHA : AllHalted S.NA eA) (hcol : S.col (eA.procs S.snk).1 = ys)
    (hrunB : run S.NB tB0 sB0 = some eB) (hHB : AllHalted S.NB eB) (hdrain : (eB.chans S.c).1 = []) :
    (∀ t s, run S.N t s0 = some s → t.length ≤ tA0.length + tB0.length) ∧
    (∀ t s, run S.N t s0 = some s → Terminal S.N s →
      AllHalted S.N s ∧ (∀ p, S.isA p = true → s.procs p = eA.procs p) ∧
        (∀ p, S.isA p = false → s.procs p = eB.procs p)) ∧
    (∃ t s, run S.N t s0 = some s ∧ AllHalted S.N s) := by
  have hTA := allHalted_terminal S.NA eA hHA
  have hTB := allHalted_terminal S.NB eB hHB
  have hS0 := sim_init S ys s0 sA0 sB0 hI
  have hPref : ∀ t' sA', run S.NA t' sA0 = some sA' → PrefOK S ys sA' :=
    fun t' sA' hr => prefOK_of_reach S ys h sA0 eA tA0 hSafeA hrunA hHA hcol t' sA' hr
  have bound : ∀ t s, run S.N t s0 = some s → t.length ≤ tA0.length + tB0.length := by
    intro t s hr
    obtain ⟨tA, tB, sA, sB, got, rA, rB, _, hl⟩ := sim_run S ys h t s0 sA0 sB0 s [] hS0 hSafeN hPref hr
    have l1 := no_longer_schedule' S.NA tA0 tA sA0 eA sA hSafeA hrunA hTA rA
    have l2 := no_longer_schedule' S.NB tB0 tB sB0 eB sB hSafeB hrunB hTB rB
    omega
  have clean : ∀ t s, run S.N t s0 = some s → Terminal S.N s →
      AllHalted S.N s ∧ (∀ p, S.isA p = true → s.procs p = eA.procs p) ∧
        (∀ p, S.isA p = false → s.procs p = eB.procs p) := by
    intro t s hr hT
    obtain ⟨tA, tB, sA, sB, got, rA, rB, hS, _⟩ := sim_run S ys h t s0 sA0 sB0 s [] hS0 hSafeN hPref hr
    exact terminal_clean S ys h s sA sB got hS hT sA0 eA tA0 tA hSafeA hrunA hHA rA sB0 eB tB0 tB hSafeB hrunB hHB
      hdrain rB
  refine ⟨bound, clean, ?_⟩
  obtain ⟨t, e, hr, hT⟩ := exists_terminal_of_bounded S.N s0 _ bound
  exact ⟨t, e, hr, (clean t e hr hT).1⟩

end Sim

/-! ### non-vacuity: producer → Pipe composed with Pipe → reader, all channels unbuffered -/

section Example
open NetM
variable {L V : Type}

theorem run_procs_ge (N : Network L V) (n : Nat) (t : List Nat) (s e : St L V) (ht : ∀ q, q ∈ t → q < n)
    (hr : run N t s = some e) : ∀ p, n ≤ p → e.procs p = s.procs p := by
  induction t generalizing s with
  | nil => simp only [run, Option.some.injEq] at hr; subst hr; exact fun _ _ => rfl
  | cons q rest ih =>
    simp only [run] at hr
    cases hq : step N q s with
    | none => simp [hq] at hr
    | some a =>
      simp only [hq, Option.bind_some] at hr
      intro p hp
      rw [ih a (fun x hx => ht x (List.mem_cons_of_mem _ hx)) hr p hp]
      obtain ⟨d, ps', cs', _, rfl, _⟩ := step_shape N q s a hq
      have : p ≠ q := by have := ht q (List.mem_cons_self); omega
      exact upd_other _ _ _ _ this

theorem run_getD (N : Network L V) (t : List Nat) (s : St L V) (h : (run N t s).isSome = true) :
    run N t s = some ((run N t s).getD s) := by
  cases hr : run N t s with
  | none => rw [hr] at h; simp at h
  | some e => rfl

theorem isHalt_eq (a : NetM.A) (h : isHalt a = true) : a = .halt := by
  cases a <;> simp [isHalt] at h ⊢

/-- processes: 0 producer, 1 Pipe(0 → 1) [A-side]; 2 Pipe(1 → 2), 3 reader of 2 [B-side]; link = channel 1 -/
def exN : Network Loc Int where
  act := fun p l => match p with | 0 => producer 0 l | 1 => pipe 0 1 l | 2 => pipe 1 2 l | 3 => sink 2 l | _ => .halt
  cap := fun _ => 0
  rd := fun c => c + 1
  wr := fun c => c
/-- the A-side with an independent reader of the link at index 2 -/
def exNA : Network Loc Int where
  act := fun p l => match p with | 0 => producer 0 l | 1 => pipe 0 1 l | 2 => sink 1 l | _ => .halt
  cap := fun _ => 0
  rd := fun c => if c = 0 then 1 else 2
  wr := fun c => if c = 0 then 0 else 1
/-- a plain producer on the link at index 1, and the B-side -/
def exNB : Network Loc Int where
  act := fun p l => match p with | 1 => producer 1 l | 2 => pipe 1 2 l | 3 => sink 2 l | _ => .halt
  cap := fun _ => 0
  rd := fun c => if c = 1 then 2 else 3
  wr := fun c => if c = 1 then 1 else 2
def ex0 : St Loc Int where
  procs := fun p => match p with | 0 => (⟨0, [5, 7]⟩, none) | _ => (⟨0, []⟩, none)
  chans := fun _ => ([], false)
def exB0 : St Loc Int where
  procs := fun p => match p with | 1 => (⟨0, [5, 7]⟩, none) | _ => (⟨0, []⟩, none)
  chans := fun _ => ([], false)

def exS : Setup Loc Int where
  N := exN
  NA := exNA
  NB := exNB
  isA := fun p => decide (p ≤ 1)
  c := 1
  snk := 2
  prd := 1
  chA := fun d => d = 0
  chB := fun d => d = 2
  sinkSt := fun xs => ⟨0, xs⟩
  sinkDone := fun xs => ⟨1, xs⟩
  col := fun l => l.reg
  prodSt := fun xs => ⟨0, xs⟩
  prodDone := ⟨1, []⟩

theorem exS_ok : exS.OK where
  c_notA := by simp [exS]
  c_notB := by simp [exS]
  disj := by intro d h1 h2; simp only [exS] at h1 h2; omega
  recvA := by
    intro p l d k hA ha
    simp only [exS, decide_eq_true_eq] at hA ⊢
    match p, hA with
    | 0, _ => simp only [exS, exN, producer] at ha; split at ha <;> simp at ha
    | 1, _ => simp only [exS, exN, pipe] at ha; split at ha <;> simp at ha; exact ha.1.symm
  sendA := by
    intro p l d v k hA ha
    simp only [exS, decide_eq_true_eq] at hA ⊢
    match p, hA with
    | 0, _ => simp only [exS, exN, producer] at ha; split at ha <;> simp at ha; exact Or.inl ha.1.symm
    | 1, _ => simp only [exS, exN, pipe] at ha; split at ha <;> simp at ha; exact Or.inr ha.1.symm
  closeA := by
    intro p l d k hA ha
    simp only [exS, decide_eq_true_eq] at hA ⊢
    match p, hA with
    | 0, _ => simp only [exS, exN, producer] at ha; split at ha <;> simp at ha; exact Or.inl ha.1.symm
    | 1, _ => simp only [exS, exN, pipe] at ha; split at ha <;> simp at ha; exact Or.inr ha.1.symm
  recvB := by
    intro p l d k hB ha
    simp only [exS, decide_eq_false_iff_not] at hB ⊢
    match p, hB with
    | 0, hB => omega
    | 1, hB => omega
    | 2, _ => simp only [exS, exN, pipe] at ha; split at ha <;> simp at ha; exact Or.inr ha.1.symm
    | 3, _ => simp only [exS, exN, sink] at ha; split at ha <;> simp at ha; exact Or.inl ha.1.symm
    | n + 4, _ => simp [exS, exN] at ha
  sendB := by
    intro p l d v k hB ha
    simp only [exS, decide_eq_false_iff_not] at hB ⊢
    match p, hB with
    | 0, hB => omega
    | 1, hB => omega
    | 2, _ => simp only [exS, exN, pipe] at ha; split at ha <;> simp at ha; exact ha.1.symm
    | 3, _ => simp only [exS, exN, sink] at ha; split at ha <;> simp at ha
    | n + 4, _ => simp [exS, exN] at ha
  closeB := by
    intro p l d k hB ha
    simp only [exS, decide_eq_false_iff_not] at hB ⊢
    match p, hB with
    | 0, hB => omega
    | 1, hB => omega
    | 2, _ => simp only [exS, exN, pipe] at ha; split at ha <;> simp at ha; exact ha.1.symm
    | 3, _ => simp only [exS, exN, sink] at ha; split at ha <;> simp at ha
    | n + 4, _ => simp [exS, exN] at ha
  capA := fun _ => rfl
  capB := fun _ => rfl
  snkB := by simp [exS]
  prdA := by simp [exS]
  actNA := by
    intro p l hA
    simp only [exS, decide_eq_true_eq] at hA ⊢
    match p, hA with
    | 0, _ => rfl
    | 1, _ => rfl
  haltNA := by
    intro p l hB hp
    simp only [exS, decide_eq_false_iff_not] at hB hp ⊢
    match p, hB, hp with
    | 0, hB, _ => omega
    | 1, hB, _ => omega
    | 2, _, hp => exact absurd rfl hp
    | n + 3, _, _ => rfl
  actNB := by
    intro p l hB
    simp only [exS, decide_eq_false_iff_not] at hB ⊢
    match p, hB with
    | 0, hB => omega
    | 1, hB => omega
    | 2, _ => rfl
    | 3, _ => rfl
    | n + 4, _ => rfl
  haltNB := by
    intro p l hA hp
    simp only [exS, decide_eq_true_eq] at hA hp ⊢
    match p, hA, hp with
    | 0, _, _ => rfl
    | 1, _, hp => exact absurd rfl hp
  sinkRun := by
    intro xs
    show Act.recv 1 _ = Act.recv 1 _
    congr 1
    funext r
    cases r <;> rfl
  sinkHalt := by intro xs; rfl
  colSt := fun _ => rfl
  colDone := fun _ => rfl
  prodSend := by intro v rest; rfl
  prodClose := rfl
  prodHalt := rfl
  prodRecv := by
    intro l d k ha
    simp only [exS, exNB, producer] at ha; split at ha <;> simp at ha
  prodSendC := by
    intro l d v k ha
    simp only [exS, exNB, producer] at ha ⊢; split at ha <;> simp at ha; exact ha.1.symm
  prodCloseC := by
    intro l d k ha
    simp only [exS, exNB, producer] at ha ⊢; split at ha <;> simp at ha; exact ha.1.symm


theorem exN_owned : Owned exN := by
  constructor
  · intro p l c k ha
    simp only [exN] at ha ⊢
    split at ha
    · simp only [producer] at ha; split at ha <;> simp at ha
    · simp only [pipe] at ha; split at ha <;> simp at ha; obtain ⟨rfl, _⟩ := ha; rfl
    · simp only [pipe] at ha; split at ha <;> simp at ha; obtain ⟨rfl, _⟩ := ha; rfl
    · simp only [sink] at ha; split at ha <;> simp at ha; obtain ⟨rfl, _⟩ := ha; rfl
    · simp at ha
  · intro p l c v k ha
    simp only [exN] at ha ⊢
    split at ha
    · simp only [producer] at ha; split at ha <;> simp at ha; obtain ⟨rfl, _⟩ := ha; rfl
    · simp only [pipe] at ha; split at ha <;> simp at ha; obtain ⟨rfl, _⟩ := ha; rfl
    · simp only [pipe] at ha; split at ha <;> simp at ha; obtain ⟨rfl, _⟩ := ha; rfl
    · simp only [sink] at ha; split at ha <;> simp at ha
    · simp at ha
  · intro p l c k ha
    simp only [exN] at ha ⊢
    split at ha
    · simp only [producer] at ha; split at ha <;> simp at ha; obtain ⟨rfl, _⟩ := ha; rfl
    · simp only [pipe] at ha; split at ha <;> simp at ha; obtain ⟨rfl, _⟩ := ha; rfl
    · simp only [pipe] at ha; split at ha <;> simp at ha; obtain ⟨rfl, _⟩ := ha; rfl
    · simp only [sink] at ha; split at ha <;> simp at ha
    · simp at ha

theorem exNA_owned : Owned exNA := by
  constructor
  · intro p l c k ha
    simp only [exNA] at ha ⊢
    split at ha
    · simp only [producer] at ha; split at ha <;> simp at ha
    · simp only [pipe] at ha; split at ha <;> simp at ha; obtain ⟨rfl, _⟩ := ha; rfl
    · simp only [sink] at ha; split at ha <;> simp at ha; obtain ⟨rfl, _⟩ := ha; rfl
    · simp at ha
  · intro p l c v k ha
    simp only [exNA] at ha ⊢
    split at ha
    · simp only [producer] at ha; split at ha <;> simp at ha; obtain ⟨rfl, _⟩ := ha; rfl
    · simp only [pipe] at ha; split at ha <;> simp at ha; obtain ⟨rfl, _⟩ := ha; rfl
    · simp only [sink] at ha; split at ha <;> simp at ha
    · simp at ha
  · intro p l c k ha
    simp only [exNA] at ha ⊢
    split at ha
    · simp only [producer] at ha; split at ha <;> simp at ha; obtain ⟨rfl, _⟩ := ha; rfl
    · simp only [pipe] at ha; split at ha <;> simp at ha; obtain ⟨rfl, _⟩ := ha; rfl
    · simp only [sink] at ha; split at ha <;> simp at ha
    · simp at ha

theorem exNB_owned : Owned exNB := by
  constructor
  · intro p l c k ha
    simp only [exNB] at ha ⊢
    split at ha
    · simp only [producer] at ha; split at ha <;> simp at ha
    · simp only [pipe] at ha; split at ha <;> simp at ha; obtain ⟨rfl, _⟩ := ha; rfl
    · simp only [sink] at ha; split at ha <;> simp at ha; obtain ⟨rfl, _⟩ := ha; rfl
    · simp at ha
  · intro p l c v k ha
    simp only [exNB] at ha ⊢
    split at ha
    · simp only [producer] at ha; split at ha <;> simp at ha; obtain ⟨rfl, _⟩ := ha; rfl
    · simp only [pipe] at ha; split at ha <;> simp at ha; obtain ⟨rfl, _⟩ := ha; rfl
    · simp only [sink] at ha; split at ha <;> simp at ha
    · simp at ha
  · intro p l c k ha
    simp only [exNB] at ha ⊢
    split at ha
    · simp only [producer] at ha; split at ha <;> simp at ha; obtain ⟨rfl, _⟩ := ha; rfl
    · simp only [pipe] at ha; split at ha <;> simp at ha; obtain ⟨rfl, _⟩ := ha; rfl
    · simp only [sink] at ha; split at ha <;> simp at ha
    · simp at ha

theorem ex0_flags (p : Nat) : (ex0.procs p).2 = none := by
  simp only [ex0]; split <;> rfl
theorem exB0_flags (p : Nat) : (exB0.procs p).2 = none := by
  simp only [exB0]; split <;> rfl

theorem ex_init : Init exS [5, 7] ex0 ex0 exB0 where
  flags := ex0_flags
  link := rfl
  procA := fun _ _ => rfl
  chanA := fun _ _ => rfl
  linkA := rfl
  snk := rfl
  idleA := fun p _ _ => ex0_flags p
  procB := by
    intro p hB
    simp only [exS, decide_eq_false_iff_not] at hB
    match p, hB with
    | 0, hB => omega
    | 1, hB => omega
    | n + 2, _ => rfl
  chanB := fun _ _ => rfl
  linkB := rfl
  prd := rfl
  idleB := fun p _ _ => exB0_flags p

def exTA : List Nat := [0, 1, 0, 1, 2, 0, 1, 1, 0, 1, 2, 0, 1, 1, 1, 2]
def exTB : List Nat := [1, 2, 1, 2, 3, 1, 2, 2, 1, 2, 3, 1, 2, 2, 2, 3]
def exEA : St Loc Int := (run exNA exTA ex0).getD ex0
def exEB : St Loc Int := (run exNB exTB exB0).getD exB0

theorem exRunA : run exNA exTA ex0 = some exEA := run_getD exNA exTA ex0 (by decide)
theorem exRunB : run exNB exTB exB0 = some exEB := run_getD exNB exTB exB0 (by decide)

theorem exHaltA : AllHalted exNA exEA := by
  have fin : ∀ p, p < 4 → ((exEA.procs p).2 = none ∧ isHalt (exNA.act p (exEA.procs p).1) = true) := by decide
  intro p
  by_cases hp : p < 4
  · exact ⟨(fin p hp).1, isHalt_eq _ (fin p hp).2⟩
  · have := run_procs_ge exNA 4 exTA ex0 exEA (by decide) exRunA p (by omega)
    rw [this]
    match p, hp with
    | 0, hp | 1, hp | 2, hp | 3, hp => omega
    | n + 4, _ => exact ⟨rfl, rfl⟩

theorem exHaltB : AllHalted exNB exEB := by
  have fin : ∀ p, p < 4 → ((exEB.procs p).2 = none ∧ isHalt (exNB.act p (exEB.procs p).1) = true) := by decide
  intro p
  by_cases hp : p < 4
  · exact ⟨(fin p hp).1, isHalt_eq _ (fin p hp).2⟩
  · have := run_procs_ge exNB 4 exTB exB0 exEB (by decide) exRunB p (by omega)
    rw [this]
    match p, hp with
    | 0, hp | 1, hp | 2, hp | 3, hp => omega
    | n + 4, _ => exact ⟨rfl, rfl⟩

/-- the hypotheses of `sequential_composition_partial` are satisfiable: the four-process pipeline
    producer → Pipe → Pipe → reader on unbuffered channels (so that hand-over waits occur on the link), cut at the
    middle channel; the reader ends with `[5, 7]` in every terminal state -/
theorem example_composition :
    (∀ t s, run exN t ex0 = some s → t.length ≤ 32) ∧
    (∀ t s, run exN t ex0 = some s → Terminal exN s → AllHalted exN s ∧ (s.procs 3).1.reg = [5, 7]) ∧
    (∃ t s, run exN t ex0 = some s ∧ AllHalted exN s) := by
  obtain ⟨h1, h2, h3⟩ := sequential_composition_partial exS [5, 7] exS_ok ex0 ex0 exB0 exEA exEB exTA exTB ex_init
    (owned_safe exN exN_owned ex0 (fun p c hc => by rw [ex0_flags p] at hc; simp at hc))
    (owned_safe exNA exNA_owned ex0 (fun p c hc => by rw [ex0_flags p] at hc; simp at hc))
    (owned_safe exNB exNB_owned exB0 (fun p c hc => by rw [exB0_flags p] at hc; simp at hc))
    exRunA exHaltA (by decide) exRunB exHaltB (by decide)
  refine ⟨h1, ?_, h3⟩
  intro t s hr hT
  obtain ⟨a, _, b⟩ := h2 t s hr hT
  refine ⟨a, ?_⟩
  have := b 3 (by decide)
  rw [this]
  decide

end Example
end C03
