import IndicatorVerif.Props.C02
/-
  C04 — no look-ahead.

  `NoLookAhead e`: for every output of the entry, (a) running on the first m inputs gives exactly
  the first m − idle outputs of the run on all n inputs (prefix law), and (b) two input families
  that agree on positions ≤ i give the same output for position i, whatever they contain later.
  It follows from alignment (C02) through the generic causality theorem `Sig.den_causal`; the
  per-indicator theorems below instantiate it for every admissible configuration.
  (Strategies: Props/C05.lean; compounds and decorators: Props/C07.lean.)
-/
namespace C04
open Sig Ind
variable {α : Type} [Arith α]

def NoLookAhead (e : Entry α) : Prop :=
  ∀ s ∈ e.outs,
    (∀ (x : Nat → Nat → α) (n m : Nat), m ≤ n →
        evalL (envOf x e.arity m) s = (evalL (envOf x e.arity n) s).take (m - e.idle)) ∧
    (∀ (x y : Nat → Nat → α) (n i : Nat), e.idle ≤ i → i < n → (∀ j m, m ≤ i → x j m = y j m) →
        (evalL (envOf x e.arity n) s)[i - e.idle]? = (evalL (envOf y e.arity n) s)[i - e.idle]?)

theorem of_aligned (e : Entry α) (h : C02.Aligned e) : NoLookAhead e := by
  intro s hs
  exact ⟨fun x n m hmn => (h s hs).prefix x n m hmn,
         fun x y n i hw hi H => (h s hs).future_irrelevant x y n i hw hi H⟩

/-- the shape every theorem below has: the entry a name resolves to, transported along `of_aligned` -/
theorem lift {o : Option (Entry α)} (h : ∃ e, o = some e ∧ C02.Aligned e) : ∃ e, o = some e ∧ NoLookAhead e :=
  h.imp fun e he => he.imp_right (of_aligned e)

theorem apo_no_lookahead (f s : Nat) (fs : List α) (h0 : 1 ≤ f) (h1 : f ≤ s) :
    ∃ e, lookup "Apo" [f, s] fs = some e ∧ NoLookAhead e :=
  lift (C02.apo_aligned f s fs h0 h1)

theorem aroon_no_lookahead (p : Nat) (fs : List α) (h0 : 1 ≤ p) :
    ∃ e, lookup "Aroon" [p] fs = some e ∧ NoLookAhead e :=
  lift (C02.aroon_aligned p fs h0)

theorem bop_no_lookahead (fs : List α) :
    ∃ e, lookup "Bop" [] fs = some e ∧ NoLookAhead e :=
  lift (C02.bop_aligned fs)

theorem cci_no_lookahead (p : Nat) (fs : List α) (h0 : 1 ≤ p) :
    ∃ e, lookup "Cci" [p] fs = some e ∧ NoLookAhead e :=
  lift (C02.cci_aligned p fs h0)

theorem dema_no_lookahead (p1 p2 : Nat) (fs : List α) (h0 : 1 ≤ p1) (h1 : 1 ≤ p2) :
    ∃ e, lookup "Dema" [p1, p2] fs = some e ∧ NoLookAhead e :=
  lift (C02.dema_aligned p1 p2 fs h0 h1)

theorem ema_no_lookahead (p : Nat) (fs : List α) (h0 : 1 ≤ p) :
    ∃ e, lookup "Ema" [p] fs = some e ∧ NoLookAhead e :=
  lift (C02.ema_aligned p fs h0)

theorem hma_no_lookahead (p : Nat) (fs : List α) (h0 : 1 ≤ p) :
    ∃ e, lookup "Hma" [p] fs = some e ∧ NoLookAhead e :=
  lift (C02.hma_aligned p fs h0)

theorem kama_no_lookahead (er fast slow : Nat) (fs : List α) (h0 : 1 ≤ er) :
    ∃ e, lookup "Kama" [er, fast, slow] fs = some e ∧ NoLookAhead e :=
  lift (C02.kama_aligned er fast slow fs h0)

theorem kdj_no_lookahead (rp kp dp : Nat) (fs : List α) (h0 : 1 ≤ rp) (h1 : 1 ≤ kp) (h2 : 1 ≤ dp) :
    ∃ e, lookup "Kdj" [rp, kp, dp] fs = some e ∧ NoLookAhead e :=
  lift (C02.kdj_aligned rp kp dp fs h0 h1 h2)

theorem macd_no_lookahead (p1 p2 p3 : Nat) (fs : List α) (h0 : 1 ≤ p1) (h1 : p1 ≤ p2) (h2 : 1 ≤ p3) :
    ∃ e, lookup "Macd" [p1, p2, p3] fs = some e ∧ NoLookAhead e :=
  lift (C02.macd_aligned p1 p2 p3 fs h0 h1 h2)

theorem massIndex_no_lookahead (p1 p2 p3 : Nat) (fs : List α) (h0 : 1 ≤ p1) (h1 : 1 ≤ p2) (h2 : 1 ≤ p3) :
    ∃ e, lookup "MassIndex" [p1, p2, p3] fs = some e ∧ NoLookAhead e :=
  lift (C02.massIndex_aligned p1 p2 p3 fs h0 h1 h2)

theorem mlr_no_lookahead (p : Nat) (fs : List α) (h0 : 1 ≤ p) :
    ∃ e, lookup "Mlr" [p] fs = some e ∧ NoLookAhead e :=
  lift (C02.mlr_aligned p fs h0)

theorem mls_no_lookahead (p : Nat) (fs : List α) (h0 : 1 ≤ p) :
    ∃ e, lookup "Mls" [p] fs = some e ∧ NoLookAhead e :=
  lift (C02.mls_aligned p fs h0)

theorem movingMax_no_lookahead (p : Nat) (fs : List α) (h0 : 1 ≤ p) :
    ∃ e, lookup "MovingMax" [p] fs = some e ∧ NoLookAhead e :=
  lift (C02.movingMax_aligned p fs h0)

theorem movingMin_no_lookahead (p : Nat) (fs : List α) (h0 : 1 ≤ p) :
    ∃ e, lookup "MovingMin" [p] fs = some e ∧ NoLookAhead e :=
  lift (C02.movingMin_aligned p fs h0)

theorem movingSum_no_lookahead (p : Nat) (fs : List α) (h0 : 1 ≤ p) :
    ∃ e, lookup "MovingSum" [p] fs = some e ∧ NoLookAhead e :=
  lift (C02.movingSum_aligned p fs h0)

theorem rma_no_lookahead (p : Nat) (fs : List α) (h0 : 1 ≤ p) :
    ∃ e, lookup "Rma" [p] fs = some e ∧ NoLookAhead e :=
  lift (C02.rma_aligned p fs h0)

theorem sma_no_lookahead (p : Nat) (fs : List α) (h0 : 1 ≤ p) :
    ∃ e, lookup "Sma" [p] fs = some e ∧ NoLookAhead e :=
  lift (C02.sma_aligned p fs h0)

theorem smma_no_lookahead (p : Nat) (fs : List α) (h0 : 1 ≤ p) :
    ∃ e, lookup "Smma" [p] fs = some e ∧ NoLookAhead e :=
  lift (C02.smma_aligned p fs h0)

theorem tema_no_lookahead (p1 p2 p3 : Nat) (fs : List α) (h0 : 1 ≤ p1) (h1 : 1 ≤ p2) (h2 : 1 ≤ p3) :
    ∃ e, lookup "Tema" [p1, p2, p3] fs = some e ∧ NoLookAhead e :=
  lift (C02.tema_aligned p1 p2 p3 fs h0 h1 h2)

theorem trix_no_lookahead (p : Nat) (fs : List α) (h0 : 1 ≤ p) :
    ∃ e, lookup "Trix" [p] fs = some e ∧ NoLookAhead e :=
  lift (C02.trix_aligned p fs h0)

theorem tsi_no_lookahead (f s : Nat) (fs : List α) (h0 : 1 ≤ f) (h1 : 1 ≤ s) :
    ∃ e, lookup "Tsi" [f, s] fs = some e ∧ NoLookAhead e :=
  lift (C02.tsi_aligned f s fs h0 h1)

theorem typicalPrice_no_lookahead (fs : List α) :
    ∃ e, lookup "TypicalPrice" [] fs = some e ∧ NoLookAhead e :=
  lift (C02.typicalPrice_aligned fs)

theorem vwma_no_lookahead (p : Nat) (fs : List α) (h0 : 1 ≤ p) :
    ∃ e, lookup "Vwma" [p] fs = some e ∧ NoLookAhead e :=
  lift (C02.vwma_aligned p fs h0)

theorem weightedClose_no_lookahead (fs : List α) :
    ∃ e, lookup "WeightedClose" [] fs = some e ∧ NoLookAhead e :=
  lift (C02.weightedClose_aligned fs)

theorem wma_no_lookahead (p : Nat) (fs : List α) (h0 : 1 ≤ p) :
    ∃ e, lookup "Wma" [p] fs = some e ∧ NoLookAhead e :=
  lift (C02.wma_aligned p fs h0)

theorem awesomeOscillator_no_lookahead (s l : Nat) (fs : List α) (h0 : 1 ≤ s) (h1 : s ≤ l) :
    ∃ e, lookup "AwesomeOscillator" [s, l] fs = some e ∧ NoLookAhead e :=
  lift (C02.awesomeOscillator_aligned s l fs h0 h1)

theorem chaikinOscillator_no_lookahead (s l : Nat) (fs : List α) (h0 : 1 ≤ s) (h1 : s ≤ l) :
    ∃ e, lookup "ChaikinOscillator" [s, l] fs = some e ∧ NoLookAhead e :=
  lift (C02.chaikinOscillator_aligned s l fs h0 h1)

theorem ppo_no_lookahead (s l sig : Nat) (fs : List α) (h0 : 1 ≤ s) (h1 : s ≤ l) (h2 : 1 ≤ sig) :
    ∃ e, lookup "Ppo" [s, l, sig] fs = some e ∧ NoLookAhead e :=
  lift (C02.ppo_aligned s l sig fs h0 h1 h2)

theorem pvo_no_lookahead (s l sig : Nat) (fs : List α) (h0 : 1 ≤ s) (h1 : s ≤ l) (h2 : 1 ≤ sig) :
    ∃ e, lookup "Pvo" [s, l, sig] fs = some e ∧ NoLookAhead e :=
  lift (C02.pvo_aligned s l sig fs h0 h1 h2)

theorem qstick_no_lookahead (p : Nat) (fs : List α) (h0 : 1 ≤ p) :
    ∃ e, lookup "Qstick" [p] fs = some e ∧ NoLookAhead e :=
  lift (C02.qstick_aligned p fs h0)

theorem rsi_no_lookahead (p : Nat) (fs : List α) (h0 : 1 ≤ p) :
    ∃ e, lookup "Rsi" [p] fs = some e ∧ NoLookAhead e :=
  lift (C02.rsi_aligned p fs h0)

theorem stochasticOscillator_no_lookahead (mp sp : Nat) (fs : List α) (h0 : 1 ≤ mp) (h1 : 1 ≤ sp) :
    ∃ e, lookup "StochasticOscillator" [mp, sp] fs = some e ∧ NoLookAhead e :=
  lift (C02.stochasticOscillator_aligned mp sp fs h0 h1)

theorem stochasticRsi_no_lookahead (p : Nat) (fs : List α) (h0 : 1 ≤ p) :
    ∃ e, lookup "StochasticRsi" [p] fs = some e ∧ NoLookAhead e :=
  lift (C02.stochasticRsi_aligned p fs h0)

theorem stochasticRsiG_no_lookahead (rp w : Nat) (fs : List α) (h0 : 1 ≤ rp) (h1 : 1 ≤ w) :
    ∃ e, lookup "StochasticRsiG" [rp, w] fs = some e ∧ NoLookAhead e :=
  lift (C02.stochasticRsiG_aligned rp w fs h0 h1)

theorem williamsR_no_lookahead (p : Nat) (fs : List α) (h0 : 1 ≤ p) :
    ∃ e, lookup "WilliamsR" [p] fs = some e ∧ NoLookAhead e :=
  lift (C02.williamsR_aligned p fs h0)

theorem accelerationBands_no_lookahead (p : Nat) (fs : List α) (h0 : 1 ≤ p) :
    ∃ e, lookup "AccelerationBands" [p] fs = some e ∧ NoLookAhead e :=
  lift (C02.accelerationBands_aligned p fs h0)

theorem bollingerBandWidth_no_lookahead (p : Nat) (fs : List α) (h0 : 1 ≤ p) :
    ∃ e, lookup "BollingerBandWidth" [p] fs = some e ∧ NoLookAhead e :=
  lift (C02.bollingerBandWidth_aligned p fs h0)

theorem bollingerBands_no_lookahead (p : Nat) (fs : List α) (h0 : 1 ≤ p) :
    ∃ e, lookup "BollingerBands" [p] fs = some e ∧ NoLookAhead e :=
  lift (C02.bollingerBands_aligned p fs h0)

theorem chandelierExit_no_lookahead (p : Nat) (fs : List α) (h0 : 1 ≤ p) :
    ∃ e, lookup "ChandelierExit" [p] fs = some e ∧ NoLookAhead e :=
  lift (C02.chandelierExit_aligned p fs h0)

theorem donchianChannel_no_lookahead (p : Nat) (fs : List α) (h0 : 1 ≤ p) :
    ∃ e, lookup "DonchianChannel" [p] fs = some e ∧ NoLookAhead e :=
  lift (C02.donchianChannel_aligned p fs h0)

theorem keltnerChannel_no_lookahead (p : Nat) (fs : List α) (h0 : 1 ≤ p) :
    ∃ e, lookup "KeltnerChannel" [p] fs = some e ∧ NoLookAhead e :=
  lift (C02.keltnerChannel_aligned p fs h0)

theorem movingStd_no_lookahead (p : Nat) (fs : List α) (h0 : 1 ≤ p) :
    ∃ e, lookup "MovingStd" [p] fs = some e ∧ NoLookAhead e :=
  lift (C02.movingStd_aligned p fs h0)

theorem percentB_no_lookahead (p : Nat) (fs : List α) (h0 : 1 ≤ p) :
    ∃ e, lookup "PercentB" [p] fs = some e ∧ NoLookAhead e :=
  lift (C02.percentB_aligned p fs h0)

theorem po_no_lookahead (p : Nat) (fs : List α) (h0 : 1 ≤ p) :
    ∃ e, lookup "Po" [p] fs = some e ∧ NoLookAhead e :=
  lift (C02.po_aligned p fs h0)

theorem ulcerIndex_no_lookahead (p : Nat) (fs : List α) (h0 : 1 ≤ p) :
    ∃ e, lookup "UlcerIndex" [p] fs = some e ∧ NoLookAhead e :=
  lift (C02.ulcerIndex_aligned p fs h0)

theorem ad_no_lookahead (fs : List α) :
    ∃ e, lookup "Ad" [] fs = some e ∧ NoLookAhead e :=
  lift (C02.ad_aligned fs)

theorem cmf_no_lookahead (p : Nat) (fs : List α) (h0 : 1 ≤ p) :
    ∃ e, lookup "Cmf" [p] fs = some e ∧ NoLookAhead e :=
  lift (C02.cmf_aligned p fs h0)

theorem emv_no_lookahead (p : Nat) (fs : List α) (h0 : 1 ≤ p) :
    ∃ e, lookup "Emv" [p] fs = some e ∧ NoLookAhead e :=
  lift (C02.emv_aligned p fs h0)

theorem fi_no_lookahead (p : Nat) (fs : List α) (h0 : 1 ≤ p) :
    ∃ e, lookup "Fi" [p] fs = some e ∧ NoLookAhead e :=
  lift (C02.fi_aligned p fs h0)

theorem mfi_no_lookahead (p : Nat) (fs : List α) (h0 : 1 ≤ p) :
    ∃ e, lookup "Mfi" [p] fs = some e ∧ NoLookAhead e :=
  lift (C02.mfi_aligned p fs h0)

theorem mfm_no_lookahead (fs : List α) :
    ∃ e, lookup "Mfm" [] fs = some e ∧ NoLookAhead e :=
  lift (C02.mfm_aligned fs)

theorem mfv_no_lookahead (fs : List α) :
    ∃ e, lookup "Mfv" [] fs = some e ∧ NoLookAhead e :=
  lift (C02.mfv_aligned fs)

theorem nvi_no_lookahead (fs : List α) :
    ∃ e, lookup "Nvi" [] fs = some e ∧ NoLookAhead e :=
  lift (C02.nvi_aligned fs)

theorem obv_no_lookahead (fs : List α) :
    ∃ e, lookup "Obv" [] fs = some e ∧ NoLookAhead e :=
  lift (C02.obv_aligned fs)

theorem vpt_no_lookahead (fs : List α) :
    ∃ e, lookup "Vpt" [] fs = some e ∧ NoLookAhead e :=
  lift (C02.vpt_aligned fs)

theorem vwap_no_lookahead (p : Nat) (fs : List α) (h0 : 1 ≤ p) :
    ∃ e, lookup "Vwap" [p] fs = some e ∧ NoLookAhead e :=
  lift (C02.vwap_aligned p fs h0)

theorem envelopeWithSma_no_lookahead (p : Nat) (fs : List α) (h0 : 1 ≤ p) :
    ∃ e, lookup "Envelope" [0, p] fs = some e ∧ NoLookAhead e :=
  lift (C02.envelopeWithSma_aligned p fs h0)

theorem envelopeWithEma_no_lookahead (p : Nat) (fs : List α) (h0 : 1 ≤ p) :
    ∃ e, lookup "Envelope" [1, p] fs = some e ∧ NoLookAhead e :=
  lift (C02.envelopeWithEma_aligned p fs h0)

theorem envelopeWithSmma_no_lookahead (p : Nat) (fs : List α) (h0 : 1 ≤ p) :
    ∃ e, lookup "Envelope" [3, p] fs = some e ∧ NoLookAhead e :=
  lift (C02.envelopeWithSmma_aligned p fs h0)

theorem envelopeWithWma_no_lookahead (p : Nat) (fs : List α) (h0 : 1 ≤ p) :
    ∃ e, lookup "Envelope" [4, p] fs = some e ∧ NoLookAhead e :=
  lift (C02.envelopeWithWma_aligned p fs h0)

theorem envelopeWithHma_no_lookahead (p : Nat) (fs : List α) (h0 : 1 ≤ p) :
    ∃ e, lookup "Envelope" [5, p] fs = some e ∧ NoLookAhead e :=
  lift (C02.envelopeWithHma_aligned p fs h0)

theorem atrWithSma_no_lookahead (p : Nat) (fs : List α) (h0 : 1 ≤ p) :
    ∃ e, lookup "Atr" [0, p] fs = some e ∧ NoLookAhead e :=
  lift (C02.atrWithSma_aligned p fs h0)

theorem atrWithEma_no_lookahead (p : Nat) (fs : List α) (h0 : 1 ≤ p) :
    ∃ e, lookup "Atr" [1, p] fs = some e ∧ NoLookAhead e :=
  lift (C02.atrWithEma_aligned p fs h0)

theorem atrWithSmma_no_lookahead (p : Nat) (fs : List α) (h0 : 1 ≤ p) :
    ∃ e, lookup "Atr" [3, p] fs = some e ∧ NoLookAhead e :=
  lift (C02.atrWithSmma_aligned p fs h0)

theorem atrWithWma_no_lookahead (p : Nat) (fs : List α) (h0 : 1 ≤ p) :
    ∃ e, lookup "Atr" [4, p] fs = some e ∧ NoLookAhead e :=
  lift (C02.atrWithWma_aligned p fs h0)

theorem atrWithHma_no_lookahead (p : Nat) (fs : List α) (h0 : 1 ≤ p) :
    ∃ e, lookup "Atr" [5, p] fs = some e ∧ NoLookAhead e :=
  lift (C02.atrWithHma_aligned p fs h0)

theorem superTrendWithSma_no_lookahead (p : Nat) (fs : List α) (h0 : 1 ≤ p) :
    ∃ e, lookup "SuperTrend" [0, p] fs = some e ∧ NoLookAhead e :=
  lift (C02.superTrendWithSma_aligned p fs h0)

theorem superTrendWithEma_no_lookahead (p : Nat) (fs : List α) (h0 : 1 ≤ p) :
    ∃ e, lookup "SuperTrend" [1, p] fs = some e ∧ NoLookAhead e :=
  lift (C02.superTrendWithEma_aligned p fs h0)

theorem superTrendWithSmma_no_lookahead (p : Nat) (fs : List α) (h0 : 1 ≤ p) :
    ∃ e, lookup "SuperTrend" [3, p] fs = some e ∧ NoLookAhead e :=
  lift (C02.superTrendWithSmma_aligned p fs h0)

theorem superTrendWithWma_no_lookahead (p : Nat) (fs : List α) (h0 : 1 ≤ p) :
    ∃ e, lookup "SuperTrend" [4, p] fs = some e ∧ NoLookAhead e :=
  lift (C02.superTrendWithWma_aligned p fs h0)

theorem superTrendWithHma_no_lookahead (p : Nat) (fs : List α) (h0 : 1 ≤ p) :
    ∃ e, lookup "SuperTrend" [5, p] fs = some e ∧ NoLookAhead e :=
  lift (C02.superTrendWithHma_aligned p fs h0)

theorem keltnerChannelGWithSma_no_lookahead (ap ep : Nat) (fs : List α) (h0 : 1 ≤ ep) (h1 : ep ≤ ap) :
    ∃ e, lookup "KeltnerChannelG" [0, ap, ep] fs = some e ∧ NoLookAhead e :=
  lift (C02.keltnerChannelGWithSma_aligned ap ep fs h0 h1)

theorem keltnerChannelGWithEma_no_lookahead (ap ep : Nat) (fs : List α) (h0 : 1 ≤ ep) (h1 : ep ≤ ap) :
    ∃ e, lookup "KeltnerChannelG" [1, ap, ep] fs = some e ∧ NoLookAhead e :=
  lift (C02.keltnerChannelGWithEma_aligned ap ep fs h0 h1)

theorem keltnerChannelGWithSmma_no_lookahead (ap ep : Nat) (fs : List α) (h0 : 1 ≤ ep) (h1 : ep ≤ ap) :
    ∃ e, lookup "KeltnerChannelG" [3, ap, ep] fs = some e ∧ NoLookAhead e :=
  lift (C02.keltnerChannelGWithSmma_aligned ap ep fs h0 h1)

theorem keltnerChannelGWithWma_no_lookahead (ap ep : Nat) (fs : List α) (h0 : 1 ≤ ep) (h1 : ep ≤ ap) :
    ∃ e, lookup "KeltnerChannelG" [4, ap, ep] fs = some e ∧ NoLookAhead e :=
  lift (C02.keltnerChannelGWithWma_aligned ap ep fs h0 h1)

theorem keltnerChannelGWithHma_no_lookahead (ap ep : Nat) (fs : List α) (h0 : 1 ≤ ep) (h1 : ep ≤ ap) :
    ∃ e, lookup "KeltnerChannelG" [5, ap, ep] fs = some e ∧ NoLookAhead e :=
  lift (C02.keltnerChannelGWithHma_aligned ap ep fs h0 h1)

theorem trima_no_lookahead (p : Nat) (fs : List α) (h0 : 1 ≤ p) :
    ∃ e, lookup "Trima" [p] fs = some e ∧ NoLookAhead e :=
  lift (C02.trima_aligned p fs h0)

/-! non-vacuity -/
example : ∃ e, lookup (α := Float) "Rsi" [14] [] = some e ∧ e.idle = 14 := ⟨_, rfl, rfl⟩

end C04
