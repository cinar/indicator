import IndicatorVerif.Props.C13
import Mathlib.Order.Defs.LinearOrder
import Mathlib.Data.Real.Basic
import Mathlib.Data.List.Sort
/-
  C13 (continued) — rankings when an outcome can be undefined.

  In Go an outcome is a float64 and can be NaN (a buy at a close of 0 followed by a sell and a re-buy gives
  0/0).  The reports rank with `slices.SortFunc(results, func(a, b) int { return cmp.Compare(b.Outcome, a.Outcome) })`.
  `cmp.Compare` on floats is a total preorder: NaN equals NaN and is below every other value.

  Model: an outcome is `Option α` over any linear order `α` (`none` = NaN).  "Lawful" is the core notion
  `Std.TransCmp` (oriented: `cmp a b = (cmp b a).swap`; transitive: `isLE` composes), which is what
  `slices.SortFunc` demands of its argument (a strict weak ordering).  The consequences are stated for ANY list
  whose adjacent entries are in comparator order (`AdjSorted`), hence for the output of any correct sorting
  algorithm, and then for two concrete ones: the insertion sort of `C13.lean` (`sortCmp`, generalised) and
  the left-to-right insertion sort that `slices.SortFunc` really runs on fewer than 12 entries (`goSort`).
-/
namespace C13

/-! ### comparators and sortedness, generically -/

section generic
variable {β : Type*}

/-- the insertion sort of `C13.lean` for an `Ordering`-valued comparator (`x` goes before `y` iff `cmp x y < 0`) -/
def insertCmp (cmp : β → β → Ordering) (x : β) : List β → List β
  | [] => [x]
  | y :: t => if cmp x y = .lt then x :: y :: t else y :: insertCmp cmp x t
def sortCmp (cmp : β → β → Ordering) (l : List β) : List β := l.foldr (insertCmp cmp) []

/-- `insertionSortCmpFunc` of Go's `slices` (used by `SortFunc` below 12 entries): the prefix is kept sorted;
    the next entry moves left while it compares `< 0` with its predecessor.  `rev` is the prefix reversed. -/
def insertLeft (cmp : β → β → Ordering) (x : β) : List β → List β
  | [] => [x]
  | y :: rev => if cmp x y = .lt then y :: insertLeft cmp x rev else x :: y :: rev
def goSort (cmp : β → β → Ordering) (l : List β) : List β :=
  (l.foldl (fun rev x => insertLeft cmp x rev) []).reverse

/-- every adjacent pair is in comparator order (what a sorting algorithm can see by comparing neighbours) -/
def AdjSorted (cmp : β → β → Ordering) : List β → Prop
  | [] => True
  | [_] => True
  | a :: b :: t => cmp a b ≠ .gt ∧ AdjSorted cmp (b :: t)

theorem ne_gt_trans {cmp : β → β → Ordering} [Std.TransCmp cmp] {a b c : β}
    (h₁ : cmp a b ≠ .gt) (h₂ : cmp b c ≠ .gt) : cmp a c ≠ .gt := by
  exact Ordering.ne_gt_iff_isLE.mpr
    (Std.TransCmp.isLE_trans (Ordering.ne_gt_iff_isLE.mp h₁) (Ordering.ne_gt_iff_isLE.mp h₂))

theorem adjSorted_iff_isChain {cmp : β → β → Ordering} :
    ∀ l : List β, AdjSorted cmp l ↔ l.IsChain (fun a b => cmp a b ≠ .gt)
  | [] => by simp [AdjSorted]
  | [_] => by simp [AdjSorted]
  | a :: b :: t => by simp [AdjSorted, adjSorted_iff_isChain (b :: t)]

/-- with a lawful comparator, neighbours in order means all pairs in order -/
theorem adjSorted_iff_pairwise {cmp : β → β → Ordering} [Std.TransCmp cmp] {l : List β} :
    AdjSorted cmp l ↔ l.Pairwise (fun a b => cmp a b ≠ .gt) :=
  haveI : Trans (fun a b => cmp a b ≠ .gt) (fun a b => cmp a b ≠ .gt) (fun a b => cmp a b ≠ .gt) :=
    ⟨ne_gt_trans⟩
  (adjSorted_iff_isChain l).trans List.isChain_iff_pairwise

/-! All three insertion sorts of this property are `List.insertionSort r` for a test `r` ("`x` goes before `y`")
    that differs from the relation `s` in which the result is sorted.  One lemma covers them:
    `List.Pairwise.orderedInsert` is its case `r = s`. -/

theorem pairwise_orderedInsert {r s : β → β → Prop} [DecidableRel r] (tr : ∀ ⦃a b c⦄, s a b → s b c → s a c)
    (h₁ : ∀ ⦃a b⦄, r a b → s a b) (h₂ : ∀ ⦃a b⦄, ¬ r a b → s b a) (x : β) :
    ∀ l : List β, l.Pairwise s → (l.orderedInsert r x).Pairwise s
  | [], _ => List.pairwise_singleton _ x
  | y :: t, h => by
    have ⟨hy, ht⟩ := List.pairwise_cons.mp h
    by_cases hxy : r x y
    · rw [List.orderedInsert_cons_of_le r t hxy]
      exact List.pairwise_cons.mpr ⟨List.forall_mem_cons.mpr ⟨h₁ hxy, fun z hz => tr (h₁ hxy) (hy z hz)⟩, h⟩
    · rw [List.orderedInsert_of_not_le r t hxy]
      refine List.pairwise_cons.mpr ⟨fun z hz => ?_, pairwise_orderedInsert tr h₁ h₂ x t ht⟩
      rcases (List.mem_orderedInsert r).mp hz with rfl | hz
      exacts [h₂ hxy, hy z hz]

theorem pairwise_insertionSort {r s : β → β → Prop} [DecidableRel r] (tr : ∀ ⦃a b c⦄, s a b → s b c → s a c)
    (h₁ : ∀ ⦃a b⦄, r a b → s a b) (h₂ : ∀ ⦃a b⦄, ¬ r a b → s b a) :
    ∀ l : List β, (l.insertionSort r).Pairwise s
  | [] => List.Pairwise.nil
  | x :: t => pairwise_orderedInsert tr h₁ h₂ x _ (pairwise_insertionSort tr h₁ h₂ t)

theorem insertCmp_eq (cmp : β → β → Ordering) (x : β) :
    ∀ l : List β, insertCmp cmp x l = l.orderedInsert (fun a b => cmp a b = .lt) x
  | [] => rfl
  | y :: t => by rw [insertCmp, insertCmp_eq cmp x t, List.orderedInsert_cons]

theorem sortCmp_eq (cmp : β → β → Ordering) (l : List β) :
    sortCmp cmp l = l.insertionSort (fun a b => cmp a b = .lt) :=
  congrArg (fun f => l.foldr f []) (funext fun x => funext (insertCmp_eq cmp x))

theorem insertLeft_eq (cmp : β → β → Ordering) (x : β) :
    ∀ l : List β, insertLeft cmp x l = l.orderedInsert (fun a b => cmp a b ≠ .lt) x
  | [] => rfl
  | y :: t => by rw [insertLeft, insertLeft_eq cmp x t, List.orderedInsert_cons, ite_not]

/-- Go inserts from the left into the sorted prefix: on the reversed prefix that is an insertion sort of the
    reversed input, a later entry going before an earlier one only if it compares `< 0` -/
theorem goSort_eq (cmp : β → β → Ordering) (l : List β) :
    goSort cmp l = (l.reverse.insertionSort (fun a b => cmp a b ≠ .lt)).reverse := by
  rw [goSort, List.foldl_eq_foldr_reverse]
  exact congrArg (fun f => (l.reverse.foldr f []).reverse) (funext fun x => funext (insertLeft_eq cmp x))

theorem sortCmp_perm (cmp : β → β → Ordering) (l : List β) : (sortCmp cmp l).Perm l :=
  sortCmp_eq cmp l ▸ List.perm_insertionSort _ l

/-- **the insertion sort of `C13.lean` is correct for every lawful comparator** -/
theorem sortCmp_sorted {cmp : β → β → Ordering} [Std.TransCmp cmp] (l : List β) :
    (sortCmp cmp l).Pairwise (fun a b => cmp a b ≠ .gt) :=
  sortCmp_eq cmp l ▸ pairwise_insertionSort (fun _ _ _ => ne_gt_trans) (fun _ _ h => by simp [h])
    (fun _ _ h => mt Std.OrientedCmp.gt_iff_lt.mp h) l

theorem goSort_perm (cmp : β → β → Ordering) (l : List β) : (goSort cmp l).Perm l :=
  goSort_eq cmp l ▸ (List.reverse_perm _).trans ((List.perm_insertionSort _ _).trans (List.reverse_perm l))

/-- **Go's small-slice insertion sort is correct for every lawful comparator** -/
theorem goSort_sorted {cmp : β → β → Ordering} [Std.TransCmp cmp] (l : List β) :
    (goSort cmp l).Pairwise (fun a b => cmp a b ≠ .gt) :=
  goSort_eq cmp l ▸ List.pairwise_reverse.mpr
    (pairwise_insertionSort (s := fun a b => cmp b a ≠ .gt) (fun _ _ _ h₁ h₂ => ne_gt_trans h₂ h₁)
      (fun _ _ h => mt Std.OrientedCmp.gt_iff_lt.mp h) (fun _ _ h => by simp [not_not.mp h]) _)

end generic

/-! ### Go's `cmp.Compare` on possibly undefined outcomes -/

section ranking
variable {α : Type*} [LinearOrder α]

/-- Go's `cmp.Compare` on floats, `none` = NaN: NaN equals NaN and is less than every number -/
def goCompare : Option α → Option α → Ordering
  | none, none => .eq
  | none, some _ => .lt
  | some _, none => .gt
  | some a, some b => compare a b

/-- the ranking comparator of both reports: `cmp.Compare(b.Outcome, a.Outcome)` -/
def rankCmp (a b : Option α) : Ordering := goCompare b a

instance goCompare_oriented : Std.OrientedCmp (goCompare (α := α)) where
  eq_swap := by
    intro a b
    cases a <;> cases b <;> simp only [goCompare, Ordering.swap]
    exact Std.OrientedCmp.eq_swap

/-- **`cmp.Compare` is lawful on outcomes that may be undefined** -/
instance goCompare_trans : Std.TransCmp (goCompare (α := α)) where
  isLE_trans := by
    intro a b c h₁ h₂
    cases a <;> cases b <;> cases c <;> simp_all [goCompare, Ordering.isLE]
    exact Std.TransCmp.isLE_trans h₁ h₂

instance rankCmp_oriented : Std.OrientedCmp (rankCmp (α := α)) :=
  Std.OrientedCmp.opposite (cmp := goCompare)

/-- **the ranking comparator is lawful** (oriented and transitive, hence total and a strict weak ordering) -/
instance rankCmp_trans : Std.TransCmp (rankCmp (α := α)) :=
  Std.TransCmp.opposite (cmp := goCompare)

theorem rankCmp_refl (a : Option α) : rankCmp a a = .eq :=
  Std.ReflCmp.compare_self

/-- total: of any two outcomes one may stand before the other -/
theorem rankCmp_total (a b : Option α) : rankCmp a b ≠ .gt ∨ rankCmp b a ≠ .gt :=
  or_iff_not_imp_left.mpr fun h => Std.OrientedCmp.not_gt_of_gt (not_not.mp h)

/-- what "`a` may stand before `b`" means: if both are defined then `b ≤ a`, and if `a` is undefined so is `b` -/
theorem rankCmp_ne_gt_iff (a b : Option α) :
    rankCmp a b ≠ .gt ↔ (∀ x y, a = some x → b = some y → y ≤ x) ∧ (a = none → b = none) := by
  cases a <;> cases b <;> simp [rankCmp, goCompare, compare_le_iff_le]

/-- equivalent outcomes are both undefined or equal: the comparator identifies nothing else -/
theorem rankCmp_eq_iff (a b : Option α) : rankCmp a b = .eq ↔ a = b := by
  cases a <;> cases b <;> simp [rankCmp, goCompare]
  exact eq_comm

/-- the two shapes of the conclusion: non-increasing on the defined outcomes, undefined ones last -/
def DefinedNonIncreasing (l : List (Option α)) : Prop :=
  l.Pairwise (fun a b => ∀ x y, a = some x → b = some y → y ≤ x)
def DefinedFirst (l : List (Option α)) : Prop :=
  l.Pairwise (fun a b => a = none → b = none)

/-- sorted for the ranking comparator is exactly: non-increasing on the defined outcomes, undefined ones last -/
theorem pairwise_rank_iff {l : List (Option α)} :
    l.Pairwise (fun a b => rankCmp a b ≠ .gt) ↔ DefinedNonIncreasing l ∧ DefinedFirst l := by
  simp only [DefinedNonIncreasing, DefinedFirst, ← List.pairwise_and_iff, rankCmp_ne_gt_iff]

/-- **a ranked list is non-increasing on the defined outcomes** (any list whose neighbours are in order) -/
theorem ranking_defined_nonincreasing (l : List (Option α)) (h : AdjSorted rankCmp l) :
    DefinedNonIncreasing l :=
  (pairwise_rank_iff.mp (adjSorted_iff_pairwise.mp h)).1

/-- **no defined outcome comes after an undefined one** -/
theorem ranking_defined_first (l : List (Option α)) (h : AdjSorted rankCmp l) : DefinedFirst l :=
  (pairwise_rank_iff.mp (adjSorted_iff_pairwise.mp h)).2

/-- the same, with positions: an undefined entry at `i` forces every later entry to be undefined -/
theorem ranking_defined_first_idx (l : List (Option α)) (h : AdjSorted rankCmp l)
    (i j : Nat) (hij : i < j) (hj : j < l.length) (hi : l[i]'(by omega) = none) : l[j] = none :=
  (List.pairwise_iff_getElem.mp (ranking_defined_first l h)) i j (by omega) hj hij hi

/-- what makes an entry the best of `l`: it may stand before every entry of `l` -/
theorem best_of_forall_ne_gt {hd : Option α} {l : List (Option α)} (h : ∀ o ∈ l, rankCmp hd o ≠ .gt) :
    (∀ x, hd = some x → ∀ y, some y ∈ l → y ≤ x) ∧ (hd = none → ∀ o ∈ l, o = none) :=
  ⟨fun x hx y hy => ((rankCmp_ne_gt_iff _ _).mp (h _ hy)).1 x y hx rfl,
    fun hn o ho => ((rankCmp_ne_gt_iff _ _).mp (h o ho)).2 hn⟩

/-- the head of any sorted arrangement of `l` is an entry of `l` and its best: every `ranking_best_is_max*`
    below is this statement for one way of obtaining the arrangement -/
theorem ranking_best_of_perm {l tl : List (Option α)} {hd : Option α} (hp : (hd :: tl).Perm l)
    (hs : (hd :: tl).Pairwise (fun a b => rankCmp a b ≠ .gt)) :
    hd ∈ l ∧ (∀ x, hd = some x → ∀ y, some y ∈ l → y ≤ x) ∧ (hd = none → ∀ o ∈ l, o = none) :=
  ⟨hp.mem_iff.mp List.mem_cons_self, best_of_forall_ne_gt fun o ho => by
    rcases List.mem_cons.mp (hp.mem_iff.mpr ho) with rfl | ho
    · simp [rankCmp_refl]
    · exact (List.pairwise_cons.mp hs).1 o ho⟩

/-- **the entry presented as best is maximal**: a defined head dominates every defined outcome of the list;
    an undefined head means that every outcome is undefined -/
theorem ranking_best_is_max (hd : Option α) (tl : List (Option α)) (h : AdjSorted rankCmp (hd :: tl)) :
    (∀ x, hd = some x → ∀ y, some y ∈ hd :: tl → y ≤ x) ∧
    (hd = none → ∀ o ∈ hd :: tl, o = none) :=
  (ranking_best_of_perm (.refl _) (adjSorted_iff_pairwise.mp h)).2

/-- the ranking as the reports compute it (both sorting algorithms), referring to the UNSORTED results:
    the presented best dominates every defined result, and is undefined only if all results are -/
theorem ranking_best_is_max_sortCmp (l : List (Option α)) (hd : Option α) (tl : List (Option α))
    (hs : sortCmp rankCmp l = hd :: tl) :
    hd ∈ l ∧ (∀ x, hd = some x → ∀ y, some y ∈ l → y ≤ x) ∧ (hd = none → ∀ o ∈ l, o = none) :=
  ranking_best_of_perm (hs ▸ sortCmp_perm rankCmp l) (hs ▸ sortCmp_sorted l)

theorem ranking_best_is_max_goSort (l : List (Option α)) (hd : Option α) (tl : List (Option α))
    (hs : goSort rankCmp l = hd :: tl) :
    hd ∈ l ∧ (∀ x, hd = some x → ∀ y, some y ∈ l → y ≤ x) ∧ (hd = none → ∀ o ∈ l, o = none) :=
  ranking_best_of_perm (hs ▸ goSort_perm rankCmp l) (hs ▸ goSort_sorted l)

theorem ranking_sortCmp (l : List (Option α)) :
    (sortCmp rankCmp l).Perm l ∧ DefinedNonIncreasing (sortCmp rankCmp l) ∧ DefinedFirst (sortCmp rankCmp l) :=
  ⟨sortCmp_perm _ l, pairwise_rank_iff.mp (sortCmp_sorted l)⟩

theorem ranking_goSort (l : List (Option α)) :
    (goSort rankCmp l).Perm l ∧ DefinedNonIncreasing (goSort rankCmp l) ∧ DefinedFirst (goSort rankCmp l) :=
  ⟨goSort_perm _ l, pairwise_rank_iff.mp (goSort_sorted l)⟩

end ranking

/-! ### the link with `C13.lean` (all outcomes defined, measured in `Int`) -/

theorem insertBy_eq (before : Int → Int → Bool) (x : Int) :
    ∀ l : List Int, insertBy before x l = l.orderedInsert (fun a b => before a b) x
  | [] => rfl
  | y :: t => by rw [insertBy, insertBy_eq before x t, List.orderedInsert_cons]

theorem sortBy_eq (before : Int → Int → Bool) (l : List Int) :
    sortBy before l = l.insertionSort (fun a b => before a b) :=
  congrArg (fun f => l.foldr f []) (funext fun x => funext (insertBy_eq before x))

/-- on defined outcomes the sort of `C13.lean` IS the generic sort with the ranking comparator -/
theorem sortBy_lawful_eq (l : List Int) : (sortBy lawful l).map some = sortCmp rankCmp (l.map some) := by
  rw [sortBy_eq, sortCmp_eq]
  exact List.map_insertionSort _ _ some l fun a _ b _ => by
    simp [lawful, rankCmp, goCompare, compare_lt_iff_lt]

/-- `C13.ranking_sorted` is the all-defined instance of the theorems above -/
theorem ranking_sorted_of_general (l : List Int) : (sortBy lawful l).Pairwise (fun a b => b ≤ a) := by
  have h := (ranking_sortCmp (l.map some)).2.1
  rw [← sortBy_lawful_eq, DefinedNonIncreasing, List.pairwise_map] at h
  exact h.imp (fun hab => hab _ _ rfl rfl)

/-! ### the comparator for which "NaN equals everything" -/

/-- what a comparator written with `<` and `>` alone (`if b < a {-1} else if b > a {1} else {0}`) amounts to on
    floats: every comparison involving NaN is false, so NaN is reported "equal" to everything -/
def badCmp {α : Type*} [LinearOrder α] : Option α → Option α → Ordering
  | some x, some y => compare y x
  | _, _ => .eq

/-- `some 0 ~ none ~ some 1`, yet `some 0` must come after `some 1` -/
theorem badCmp_witness :
    badCmp (some (0 : Int)) none = .eq ∧ badCmp none (some (1 : Int)) = .eq ∧
    badCmp (some (0 : Int)) (some 1) = .gt := by decide

/-- **the NaN-equals-everything comparator is not lawful**: equivalence (and `≤`) is not transitive -/
theorem badCmp_not_transitive :
    (¬ ∀ a b c : Option Int, badCmp a b = .eq → badCmp b c = .eq → badCmp a c = .eq) ∧
    (¬ ∀ a b c : Option Int, badCmp a b ≠ .gt → badCmp b c ≠ .gt → badCmp a c ≠ .gt) ∧
    ¬ Std.TransCmp (badCmp (α := Int)) := by
  obtain ⟨h₁, h₂, h₃⟩ := badCmp_witness
  have hle : ¬ ∀ a b c : Option Int, badCmp a b ≠ .gt → badCmp b c ≠ .gt → badCmp a c ≠ .gt :=
    fun h => h (some 0) none (some 1) (by simp [h₁]) (by simp [h₂]) h₃
  exact ⟨fun h => by simpa [h₃] using h _ _ _ h₁ h₂, hle, fun _ => hle fun _ _ _ => ne_gt_trans⟩

/-- **`[some 0, none, some 1]` passes every adjacent comparison** although the defined outcomes increase,
    a defined outcome follows an undefined one, and the head is not the maximum -/
theorem badCmp_accepts_unsorted :
    AdjSorted badCmp [some (0 : Int), none, some 1] ∧
    ¬ DefinedNonIncreasing [some (0 : Int), none, some 1] ∧
    ¬ DefinedFirst [some (0 : Int), none, some 1] ∧
    ¬ (∀ y, some y ∈ [some (0 : Int), none, some 1] → y ≤ 0) := by
  refine ⟨⟨by decide, by decide, trivial⟩, ?_, ?_, ?_⟩
  · intro h
    have := (List.pairwise_cons.mp h).1 (some 1) (by simp) 0 1 rfl rfl
    omega
  · intro h
    have := (List.pairwise_cons.mp (List.pairwise_cons.mp h).2).1 (some 1) (by simp) rfl
    exact absurd this (by simp)
  · intro h
    have := h 1 (by simp)
    omega

/-- and Go's own insertion sort, run with that comparator, leaves exactly this list as it is:
    the report would present 0 as the best outcome while 1 is in the list -/
theorem badCmp_goSort_leaves_unsorted :
    goSort badCmp [some (0 : Int), none, some 1] = [some 0, none, some 1] := by decide

/-- the insertion sort of `C13.lean` with that comparator can present an undefined outcome as best although a
    defined one exists -/
theorem badCmp_sortCmp_undefined_best :
    sortCmp badCmp [some (0 : Int), none] = [none, some 0] := by decide

/-! ### non-vacuity and the instance at the reals -/

example : goSort rankCmp [some (0 : Int), none, some 1] = [some 1, some 0, none] := by decide
example : sortCmp rankCmp [none, some (0 : Int), none, some 1] = [some 1, some 0, none, none] := by decide
example : AdjSorted rankCmp [some (1 : Int), some 0, none] := ⟨by decide, by decide, trivial⟩
example : ¬ AdjSorted rankCmp [some (0 : Int), none, some 1] := by
  intro h; exact h.2.1 (by decide)

/-- the statement for real-valued outcomes (`none` = NaN) -/
theorem ranking_best_is_max_real (hd : Option ℝ) (tl : List (Option ℝ)) (h : AdjSorted rankCmp (hd :: tl)) :
    (∀ x, hd = some x → ∀ y, some y ∈ hd :: tl → y ≤ x) ∧ (hd = none → ∀ o ∈ hd :: tl, o = none) :=
  ranking_best_is_max hd tl h

theorem ranking_defined_first_real (l : List (Option ℝ)) (h : AdjSorted rankCmp l) : DefinedFirst l :=
  ranking_defined_first l h

end C13
