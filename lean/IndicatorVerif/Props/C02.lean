import IndicatorVerif.Proofs.Aligned
/-
  C02 — warm-up contract.

  For every indicator and every admissible configuration (all periods ≥ 1 and the documented
  ordering constraints such as fast ≤ slow) every output of the model is `Good` (well aligned, no
  re-anchoring shift, inputs within the arity) at the declared idle period.  By `warmup_of_aligned`
  this gives, for every input family and every length n: exactly n − idle values on every output
  (none when n ≤ idle), the k-th value being the one computed for input position k + idle, and equal
  lengths on all outputs of a multi-output indicator.

  The idle period in the registry entry is the Go `IdlePeriod()` expression; the correspondence
  check compares it with the value the Go method returns on every case.
  Exception (known finding): the fifth output of IchimokuCloud (lagging span) — `ichimoku_lagging_length`.
-/
namespace C02
open Sig Ind
variable {α : Type} [Arith α]

/-- every output of the registry entry is `Good` at the entry's idle period and arity -/
def Aligned (e : Entry α) : Prop := ∀ s ∈ e.outs, Good s e.idle e.arity

/-- the statement of C02 for one entry, for all inputs and lengths -/
theorem warmup_of_aligned (e : Entry α) (h : Aligned e) (x : Nat → Nat → α) (n : Nat) :
    ∀ s ∈ e.outs, (evalL (envOf x e.arity n) s).length = n - e.idle ∧
      ∀ k, k < n - e.idle → (evalL (envOf x e.arity n) s)[k]? = some (den x s (e.idle + k)) := by
  intro s hs
  exact ⟨(h s hs).length x n, fun k hk => (h s hs).kth x n k hk⟩

/-- an input not longer than the warm-up yields no values at all -/
theorem empty_when_short (e : Entry α) (h : Aligned e) (x : Nat → Nat → α) (n : Nat) (hn : n ≤ e.idle) :
    ∀ s ∈ e.outs, evalL (envOf x e.arity n) s = [] := by
  intro s hs
  have := (h s hs).length x n
  exact List.length_eq_zero_iff.mp (by omega)

/-- all outputs of a multi-output indicator have the same length -/
theorem equal_lengths (e : Entry α) (h : Aligned e) (x : Nat → Nat → α) (n : Nat) :
    ∀ s ∈ e.outs, ∀ t ∈ e.outs,
      (evalL (envOf x e.arity n) s).length = (evalL (envOf x e.arity n) t).length := by
  intro s hs t ht
  rw [(h s hs).length x n, (h t ht).length x n]

/- kept only until C05/C06/C14 are converted (they call it before `good_tac`) -/
macro "unfold_ind" : tactic => `(tactic|
  simp only [Ind.add, Ind.sub, Ind.mul, Ind.div, Ind.mulBy, Ind.divBy, Ind.incBy, Ind.absS, Ind.pow2, Ind.powInv,
    Ind.sqrtS, Ind.keepPos, Ind.keepNeg, Ind.signS, Ind.round0, Ind.change, Ind.changeRatio, Ind.movingSum, Ind.sma,
    Ind.movingMax, Ind.movingMin, Ind.ema, Ind.rma, Ind.smma, Ind.wma, Ind.movingStd, Ind.since, Ind.count, Ind.cumSum,
    Ind.typicalPrice, Ind.hma, Ind.maApply, Ind.maIdle, Ind.apo, Ind.aroonLine, Ind.aroon, Ind.bop, Ind.cci, Ind.dema,
    Ind.envelope, Ind.kama, Ind.kdj, Ind.macd, Ind.massIndex, Ind.mls, Ind.mlsM, Ind.mlsB, Ind.mlr, Ind.tema,
    Ind.trix, Ind.tsi, Ind.vwma, Ind.weightedClose, Ind.mfm, Ind.mfv, Ind.ad, Ind.cmf, Ind.emv, Ind.fi, Ind.mfi, Ind.nvi,
    Ind.obv, Ind.vpt, Ind.vwap, Ind.awesomeOscillator, Ind.chaikinOscillator, Ind.ichimokuCloud, Ind.ppo, Ind.qstick,
    Ind.rsi, Ind.stochasticOscillator, Ind.stochasticRsi, Ind.stochasticRsiG, Ind.williamsR, Ind.accelerationBands, Ind.trueRange, Ind.atr,
    Ind.atrIdle, Ind.bollingerBands, Ind.bbUpper, Ind.bbLower, Ind.bollingerBandWidth, Ind.chandelierExit,
    Ind.donchianChannel, Ind.keltnerChannel, Ind.keltnerChannelG, Ind.percentB, Ind.po, Ind.superTrend, Ind.ulcerIndex,
    Ind.i0, Ind.i1, Ind.i2, Ind.i3, Ind.maOf, Ind.halfRound,
    List.getD_cons_zero, List.getD_cons_succ, List.getD_nil, C02.Aligned, List.forall_mem_cons, List.not_mem_nil,
    false_imp_iff, implies_true, and_true])

attribute [good] Aligned

macro "aligned_tac" : tactic => `(tactic|
  (refine ⟨_, rfl, ?_⟩
   good_simp <;> omega))

theorem apo_aligned (f s : Nat) (fs : List α) (h0 : 1 ≤ f) (h1 : f ≤ s) :
    ∃ e, lookup "Apo" [f, s] fs = some e ∧ Aligned e := by
  aligned_tac

theorem aroon_aligned (p : Nat) (fs : List α) (h0 : 1 ≤ p) :
    ∃ e, lookup "Aroon" [p] fs = some e ∧ Aligned e := by
  aligned_tac

theorem bop_aligned (fs : List α) :
    ∃ e, lookup "Bop" [] fs = some e ∧ Aligned e := by
  aligned_tac

theorem cci_aligned (p : Nat) (fs : List α) (h0 : 1 ≤ p) :
    ∃ e, lookup "Cci" [p] fs = some e ∧ Aligned e := by
  aligned_tac

theorem dema_aligned (p1 p2 : Nat) (fs : List α) (h0 : 1 ≤ p1) (h1 : 1 ≤ p2) :
    ∃ e, lookup "Dema" [p1, p2] fs = some e ∧ Aligned e := by
  aligned_tac

theorem ema_aligned (p : Nat) (fs : List α) (h0 : 1 ≤ p) :
    ∃ e, lookup "Ema" [p] fs = some e ∧ Aligned e := by
  aligned_tac

theorem hma_aligned (p : Nat) (fs : List α) (h0 : 1 ≤ p) :
    ∃ e, lookup "Hma" [p] fs = some e ∧ Aligned e := by
  aligned_tac

theorem kama_aligned (er fast slow : Nat) (fs : List α) (h0 : 1 ≤ er) :
    ∃ e, lookup "Kama" [er, fast, slow] fs = some e ∧ Aligned e := by
  aligned_tac

theorem kdj_aligned (rp kp dp : Nat) (fs : List α) (h0 : 1 ≤ rp) (h1 : 1 ≤ kp) (h2 : 1 ≤ dp) :
    ∃ e, lookup "Kdj" [rp, kp, dp] fs = some e ∧ Aligned e := by
  aligned_tac

theorem macd_aligned (p1 p2 p3 : Nat) (fs : List α) (h0 : 1 ≤ p1) (h1 : p1 ≤ p2) (h2 : 1 ≤ p3) :
    ∃ e, lookup "Macd" [p1, p2, p3] fs = some e ∧ Aligned e := by
  aligned_tac

theorem massIndex_aligned (p1 p2 p3 : Nat) (fs : List α) (h0 : 1 ≤ p1) (h1 : 1 ≤ p2) (h2 : 1 ≤ p3) :
    ∃ e, lookup "MassIndex" [p1, p2, p3] fs = some e ∧ Aligned e := by
  aligned_tac

theorem mlr_aligned (p : Nat) (fs : List α) (h0 : 1 ≤ p) :
    ∃ e, lookup "Mlr" [p] fs = some e ∧ Aligned e := by
  aligned_tac

theorem mls_aligned (p : Nat) (fs : List α) (h0 : 1 ≤ p) :
    ∃ e, lookup "Mls" [p] fs = some e ∧ Aligned e := by
  aligned_tac

theorem movingMax_aligned (p : Nat) (fs : List α) (h0 : 1 ≤ p) :
    ∃ e, lookup "MovingMax" [p] fs = some e ∧ Aligned e := by
  aligned_tac

theorem movingMin_aligned (p : Nat) (fs : List α) (h0 : 1 ≤ p) :
    ∃ e, lookup "MovingMin" [p] fs = some e ∧ Aligned e := by
  aligned_tac

theorem movingSum_aligned (p : Nat) (fs : List α) (h0 : 1 ≤ p) :
    ∃ e, lookup "MovingSum" [p] fs = some e ∧ Aligned e := by
  aligned_tac

theorem rma_aligned (p : Nat) (fs : List α) (h0 : 1 ≤ p) :
    ∃ e, lookup "Rma" [p] fs = some e ∧ Aligned e := by
  aligned_tac

theorem sma_aligned (p : Nat) (fs : List α) (h0 : 1 ≤ p) :
    ∃ e, lookup "Sma" [p] fs = some e ∧ Aligned e := by
  aligned_tac

theorem smma_aligned (p : Nat) (fs : List α) (h0 : 1 ≤ p) :
    ∃ e, lookup "Smma" [p] fs = some e ∧ Aligned e := by
  aligned_tac

theorem tema_aligned (p1 p2 p3 : Nat) (fs : List α) (h0 : 1 ≤ p1) (h1 : 1 ≤ p2) (h2 : 1 ≤ p3) :
    ∃ e, lookup "Tema" [p1, p2, p3] fs = some e ∧ Aligned e := by
  aligned_tac

theorem trix_aligned (p : Nat) (fs : List α) (h0 : 1 ≤ p) :
    ∃ e, lookup "Trix" [p] fs = some e ∧ Aligned e := by
  aligned_tac

theorem tsi_aligned (f s : Nat) (fs : List α) (h0 : 1 ≤ f) (h1 : 1 ≤ s) :
    ∃ e, lookup "Tsi" [f, s] fs = some e ∧ Aligned e := by
  aligned_tac

theorem typicalPrice_aligned (fs : List α) :
    ∃ e, lookup "TypicalPrice" [] fs = some e ∧ Aligned e := by
  aligned_tac

theorem vwma_aligned (p : Nat) (fs : List α) (h0 : 1 ≤ p) :
    ∃ e, lookup "Vwma" [p] fs = some e ∧ Aligned e := by
  aligned_tac

theorem weightedClose_aligned (fs : List α) :
    ∃ e, lookup "WeightedClose" [] fs = some e ∧ Aligned e := by
  aligned_tac

theorem wma_aligned (p : Nat) (fs : List α) (h0 : 1 ≤ p) :
    ∃ e, lookup "Wma" [p] fs = some e ∧ Aligned e := by
  aligned_tac

theorem awesomeOscillator_aligned (s l : Nat) (fs : List α) (h0 : 1 ≤ s) (h1 : s ≤ l) :
    ∃ e, lookup "AwesomeOscillator" [s, l] fs = some e ∧ Aligned e := by
  aligned_tac

theorem chaikinOscillator_aligned (s l : Nat) (fs : List α) (h0 : 1 ≤ s) (h1 : s ≤ l) :
    ∃ e, lookup "ChaikinOscillator" [s, l] fs = some e ∧ Aligned e := by
  aligned_tac

theorem ppo_aligned (s l sig : Nat) (fs : List α) (h0 : 1 ≤ s) (h1 : s ≤ l) (h2 : 1 ≤ sig) :
    ∃ e, lookup "Ppo" [s, l, sig] fs = some e ∧ Aligned e := by
  aligned_tac

theorem pvo_aligned (s l sig : Nat) (fs : List α) (h0 : 1 ≤ s) (h1 : s ≤ l) (h2 : 1 ≤ sig) :
    ∃ e, lookup "Pvo" [s, l, sig] fs = some e ∧ Aligned e := by
  aligned_tac

theorem qstick_aligned (p : Nat) (fs : List α) (h0 : 1 ≤ p) :
    ∃ e, lookup "Qstick" [p] fs = some e ∧ Aligned e := by
  aligned_tac

theorem rsi_aligned (p : Nat) (fs : List α) (h0 : 1 ≤ p) :
    ∃ e, lookup "Rsi" [p] fs = some e ∧ Aligned e := by
  aligned_tac

theorem stochasticOscillator_aligned (mp sp : Nat) (fs : List α) (h0 : 1 ≤ mp) (h1 : 1 ≤ sp) :
    ∃ e, lookup "StochasticOscillator" [mp, sp] fs = some e ∧ Aligned e := by
  aligned_tac

theorem stochasticRsi_aligned (p : Nat) (fs : List α) (h0 : 1 ≤ p) :
    ∃ e, lookup "StochasticRsi" [p] fs = some e ∧ Aligned e := by
  aligned_tac

theorem stochasticRsiG_aligned (rp w : Nat) (fs : List α) (h0 : 1 ≤ rp) (h1 : 1 ≤ w) :
    ∃ e, lookup "StochasticRsiG" [rp, w] fs = some e ∧ Aligned e := by
  aligned_tac

theorem williamsR_aligned (p : Nat) (fs : List α) (h0 : 1 ≤ p) :
    ∃ e, lookup "WilliamsR" [p] fs = some e ∧ Aligned e := by
  aligned_tac

theorem accelerationBands_aligned (p : Nat) (fs : List α) (h0 : 1 ≤ p) :
    ∃ e, lookup "AccelerationBands" [p] fs = some e ∧ Aligned e := by
  aligned_tac

theorem bollingerBandWidth_aligned (p : Nat) (fs : List α) (h0 : 1 ≤ p) :
    ∃ e, lookup "BollingerBandWidth" [p] fs = some e ∧ Aligned e := by
  aligned_tac

theorem bollingerBands_aligned (p : Nat) (fs : List α) (h0 : 1 ≤ p) :
    ∃ e, lookup "BollingerBands" [p] fs = some e ∧ Aligned e := by
  aligned_tac

theorem chandelierExit_aligned (p : Nat) (fs : List α) (h0 : 1 ≤ p) :
    ∃ e, lookup "ChandelierExit" [p] fs = some e ∧ Aligned e := by
  aligned_tac

theorem donchianChannel_aligned (p : Nat) (fs : List α) (h0 : 1 ≤ p) :
    ∃ e, lookup "DonchianChannel" [p] fs = some e ∧ Aligned e := by
  aligned_tac

theorem keltnerChannel_aligned (p : Nat) (fs : List α) (h0 : 1 ≤ p) :
    ∃ e, lookup "KeltnerChannel" [p] fs = some e ∧ Aligned e := by
  aligned_tac

theorem movingStd_aligned (p : Nat) (fs : List α) (h0 : 1 ≤ p) :
    ∃ e, lookup "MovingStd" [p] fs = some e ∧ Aligned e := by
  aligned_tac

theorem percentB_aligned (p : Nat) (fs : List α) (h0 : 1 ≤ p) :
    ∃ e, lookup "PercentB" [p] fs = some e ∧ Aligned e := by
  aligned_tac

theorem po_aligned (p : Nat) (fs : List α) (h0 : 1 ≤ p) :
    ∃ e, lookup "Po" [p] fs = some e ∧ Aligned e := by
  aligned_tac

theorem ulcerIndex_aligned (p : Nat) (fs : List α) (h0 : 1 ≤ p) :
    ∃ e, lookup "UlcerIndex" [p] fs = some e ∧ Aligned e := by
  aligned_tac

theorem ad_aligned (fs : List α) :
    ∃ e, lookup "Ad" [] fs = some e ∧ Aligned e := by
  aligned_tac

theorem cmf_aligned (p : Nat) (fs : List α) (h0 : 1 ≤ p) :
    ∃ e, lookup "Cmf" [p] fs = some e ∧ Aligned e := by
  aligned_tac

theorem emv_aligned (p : Nat) (fs : List α) (h0 : 1 ≤ p) :
    ∃ e, lookup "Emv" [p] fs = some e ∧ Aligned e := by
  aligned_tac

theorem fi_aligned (p : Nat) (fs : List α) (h0 : 1 ≤ p) :
    ∃ e, lookup "Fi" [p] fs = some e ∧ Aligned e := by
  aligned_tac

theorem mfi_aligned (p : Nat) (fs : List α) (h0 : 1 ≤ p) :
    ∃ e, lookup "Mfi" [p] fs = some e ∧ Aligned e := by
  aligned_tac

theorem mfm_aligned (fs : List α) :
    ∃ e, lookup "Mfm" [] fs = some e ∧ Aligned e := by
  aligned_tac

theorem mfv_aligned (fs : List α) :
    ∃ e, lookup "Mfv" [] fs = some e ∧ Aligned e := by
  aligned_tac

theorem nvi_aligned (fs : List α) :
    ∃ e, lookup "Nvi" [] fs = some e ∧ Aligned e := by
  aligned_tac

theorem obv_aligned (fs : List α) :
    ∃ e, lookup "Obv" [] fs = some e ∧ Aligned e := by
  aligned_tac

theorem vpt_aligned (fs : List α) :
    ∃ e, lookup "Vpt" [] fs = some e ∧ Aligned e := by
  aligned_tac

theorem vwap_aligned (p : Nat) (fs : List α) (h0 : 1 ≤ p) :
    ∃ e, lookup "Vwap" [p] fs = some e ∧ Aligned e := by
  aligned_tac

/-! Envelope, Atr, SuperTrend and KeltnerChannelG take the kind of moving average as a code
(`maOf`: 0 sma, 1 ema, 2/3 smma, 4 wma, else hma): aligned for every code. -/

theorem envelope_aligned (k p : Nat) (fs : List α) (h0 : 1 ≤ p) :
    ∃ e, lookup "Envelope" [k, p] fs = some e ∧ Aligned e := by
  refine ⟨_, rfl, ?_⟩
  simp only [ind_body, good, good_maApply h0] <;> omega

theorem atr_aligned (k p : Nat) (fs : List α) (h0 : 1 ≤ p) :
    ∃ e, lookup "Atr" [k, p] fs = some e ∧ Aligned e := by
  refine ⟨_, rfl, ?_⟩
  simp only [ind_body, good, good_maApply h0] <;> omega

theorem superTrend_aligned (k p : Nat) (fs : List α) (h0 : 1 ≤ p) :
    ∃ e, lookup "SuperTrend" [k, p] fs = some e ∧ Aligned e := by
  refine ⟨_, rfl, ?_⟩
  simp only [ind_body, good, good_maApply h0] <;> omega

theorem keltnerChannelG_aligned (k ap ep : Nat) (fs : List α) (h0 : 1 ≤ ep) (h1 : ep ≤ ap) :
    ∃ e, lookup "KeltnerChannelG" [k, ap, ep] fs = some e ∧ Aligned e := by
  refine ⟨_, rfl, ?_⟩
  have := le_maIdle k ap
  simp only [ind_body, good, good_maApply (Nat.le_trans h0 h1)] <;> omega

theorem envelopeWithSma_aligned (p : Nat) (fs : List α) (h0 : 1 ≤ p) :
    ∃ e, lookup "Envelope" [0, p] fs = some e ∧ Aligned e := envelope_aligned 0 p fs h0

theorem envelopeWithEma_aligned (p : Nat) (fs : List α) (h0 : 1 ≤ p) :
    ∃ e, lookup "Envelope" [1, p] fs = some e ∧ Aligned e := envelope_aligned 1 p fs h0

theorem envelopeWithSmma_aligned (p : Nat) (fs : List α) (h0 : 1 ≤ p) :
    ∃ e, lookup "Envelope" [3, p] fs = some e ∧ Aligned e := envelope_aligned 3 p fs h0

theorem envelopeWithWma_aligned (p : Nat) (fs : List α) (h0 : 1 ≤ p) :
    ∃ e, lookup "Envelope" [4, p] fs = some e ∧ Aligned e := envelope_aligned 4 p fs h0

theorem envelopeWithHma_aligned (p : Nat) (fs : List α) (h0 : 1 ≤ p) :
    ∃ e, lookup "Envelope" [5, p] fs = some e ∧ Aligned e := envelope_aligned 5 p fs h0

theorem atrWithSma_aligned (p : Nat) (fs : List α) (h0 : 1 ≤ p) :
    ∃ e, lookup "Atr" [0, p] fs = some e ∧ Aligned e := atr_aligned 0 p fs h0

theorem atrWithEma_aligned (p : Nat) (fs : List α) (h0 : 1 ≤ p) :
    ∃ e, lookup "Atr" [1, p] fs = some e ∧ Aligned e := atr_aligned 1 p fs h0

theorem atrWithSmma_aligned (p : Nat) (fs : List α) (h0 : 1 ≤ p) :
    ∃ e, lookup "Atr" [3, p] fs = some e ∧ Aligned e := atr_aligned 3 p fs h0

theorem atrWithWma_aligned (p : Nat) (fs : List α) (h0 : 1 ≤ p) :
    ∃ e, lookup "Atr" [4, p] fs = some e ∧ Aligned e := atr_aligned 4 p fs h0

theorem atrWithHma_aligned (p : Nat) (fs : List α) (h0 : 1 ≤ p) :
    ∃ e, lookup "Atr" [5, p] fs = some e ∧ Aligned e := atr_aligned 5 p fs h0

theorem superTrendWithSma_aligned (p : Nat) (fs : List α) (h0 : 1 ≤ p) :
    ∃ e, lookup "SuperTrend" [0, p] fs = some e ∧ Aligned e := superTrend_aligned 0 p fs h0

theorem superTrendWithEma_aligned (p : Nat) (fs : List α) (h0 : 1 ≤ p) :
    ∃ e, lookup "SuperTrend" [1, p] fs = some e ∧ Aligned e := superTrend_aligned 1 p fs h0

theorem superTrendWithSmma_aligned (p : Nat) (fs : List α) (h0 : 1 ≤ p) :
    ∃ e, lookup "SuperTrend" [3, p] fs = some e ∧ Aligned e := superTrend_aligned 3 p fs h0

theorem superTrendWithWma_aligned (p : Nat) (fs : List α) (h0 : 1 ≤ p) :
    ∃ e, lookup "SuperTrend" [4, p] fs = some e ∧ Aligned e := superTrend_aligned 4 p fs h0

theorem superTrendWithHma_aligned (p : Nat) (fs : List α) (h0 : 1 ≤ p) :
    ∃ e, lookup "SuperTrend" [5, p] fs = some e ∧ Aligned e := superTrend_aligned 5 p fs h0

theorem keltnerChannelGWithSma_aligned (ap ep : Nat) (fs : List α) (h0 : 1 ≤ ep) (h1 : ep ≤ ap) :
    ∃ e, lookup "KeltnerChannelG" [0, ap, ep] fs = some e ∧ Aligned e := keltnerChannelG_aligned 0 ap ep fs h0 h1

theorem keltnerChannelGWithEma_aligned (ap ep : Nat) (fs : List α) (h0 : 1 ≤ ep) (h1 : ep ≤ ap) :
    ∃ e, lookup "KeltnerChannelG" [1, ap, ep] fs = some e ∧ Aligned e := keltnerChannelG_aligned 1 ap ep fs h0 h1

theorem keltnerChannelGWithSmma_aligned (ap ep : Nat) (fs : List α) (h0 : 1 ≤ ep) (h1 : ep ≤ ap) :
    ∃ e, lookup "KeltnerChannelG" [3, ap, ep] fs = some e ∧ Aligned e := keltnerChannelG_aligned 3 ap ep fs h0 h1

theorem keltnerChannelGWithWma_aligned (ap ep : Nat) (fs : List α) (h0 : 1 ≤ ep) (h1 : ep ≤ ap) :
    ∃ e, lookup "KeltnerChannelG" [4, ap, ep] fs = some e ∧ Aligned e := keltnerChannelG_aligned 4 ap ep fs h0 h1

theorem keltnerChannelGWithHma_aligned (ap ep : Nat) (fs : List α) (h0 : 1 ≤ ep) (h1 : ep ≤ ap) :
    ∃ e, lookup "KeltnerChannelG" [5, ap, ep] fs = some e ∧ Aligned e := keltnerChannelG_aligned 5 ap ep fs h0 h1

/-- Trima: the two SMA periods depend on the parity of the period -/
theorem trima_aligned (p : Nat) (fs : List α) (h0 : 1 ≤ p) :
    ∃ e, lookup "Trima" [p] fs = some e ∧ Aligned e := by
  refine ⟨_, rfl, ?_⟩
  simp only [trima, trimaPeriods, List.getD_cons_zero]
  by_cases hp : p % 2 = 0 <;> simp only [hp, if_true, if_false] <;> good_simp <;> omega

/-- IchimokuCloud: conversion line, base line and both leading spans are aligned at `leading − 1` -/
theorem ichimokuCloud_aligned_first_four (c b l lag : Nat) (fs : List α) (h0 : 1 ≤ c) (h1 : c ≤ b) (h2 : b ≤ l) :
    ∃ e, lookup "IchimokuCloud" [c, b, l, lag] fs = some e ∧
      ∀ s ∈ e.outs.take 4, Good s e.idle e.arity := by
  refine ⟨_, rfl, ?_⟩
  simp only [ichimokuCloud, List.take_succ_cons, List.take_zero]
  good_simp <;> omega

/-- … while the lagging span has `lagging` more values than its siblings (known finding, as-is) -/
theorem ichimoku_lagging_length (c b l lag : Nat) (fs : List α) (env : List (List α)) :
    ∃ e, lookup "IchimokuCloud" [c, b, l, lag] fs = some e ∧
      ∀ s, e.outs[4]? = some s → (evalL env s).length = lag + (env.getD 2 []).length - (l - 1) := by
  refine ⟨_, rfl, ?_⟩
  intro s hs
  simp only [ichimokuCloud, List.getD_cons_zero, List.getD_cons_succ] at hs
  simp at hs
  subst hs
  simp [evalL, i2]

/-! non-vacuity: admissible configurations exist and the entry is the one the driver runs -/
example : ∃ e, lookup (α := Float) "Macd" [12, 26, 9] [] = some e ∧ e.idle = 33 := ⟨_, rfl, rfl⟩
example : ∃ e, lookup (α := Float) "Kdj" [9, 3, 3] [] = some e ∧ e.idle = 12 ∧ e.outs.length = 3 := ⟨_, rfl, rfl, rfl⟩

end C02
