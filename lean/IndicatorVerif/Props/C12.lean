import IndicatorVerif.Props.C10
/-
  C12 — Sync copies exactly the missing snapshots, once, for every asset.
  Model: `SyncM.syncOne` (one job of the worker loop) and `SyncM.run` (the jobs in list order).
  Theorems: what a job appends; a failing asset neither blocks the others nor goes unreported;
  a second run adds nothing (date-sorted source); jobs on distinct assets commute, so any order
  of the jobs — hence any worker count and interleaving of whole jobs — gives the same target.
-/
namespace C12
open Repo SyncM

/-- observational equality of targets -/
def Same (a b : Store) : Prop := ∀ n, lookup a n = lookup b n

theorem Same.refl (a : Store) : Same a a := fun _ => rfl
theorem Same.trans {a b c : Store} (h1 : Same a b) (h2 : Same b c) : Same a c := fun n => (h1 n).trans (h2 n)

/-- what the job for `name` gets from the source, `none` when it fails: this does not depend on the target -/
def fetched (src : Store) (fg fa : String → Bool) (name : String) : Option (List Snap) :=
  if fg name = true ∨ fa name = true then none else lookup src name

theorem fetched_eq_none_iff (src : Store) (fg fa : String → Bool) (name : String) :
    fetched src fg fa name = none ↔ fg name = true ∨ fa name = true ∨ lookup src name = none := by
  rw [← or_assoc]; unfold fetched; split <;> simp_all

/-- `syncOne` in one piece: all that is proved about a job below rests on this and on `C10.lookup_append` -/
theorem syncOne_eq (src tgt : Store) (dflt : Nat) (fg fa : String → Bool) (name : String) :
    syncOne src tgt dflt fg fa name =
      match fetched src fg fa name with
      | none => (tgt, true)
      | some l => (append tgt name (sinceF (startDay (lookup tgt name) dflt) l), false) := by
  unfold syncOne fetched
  cases hg : fg name <;> cases ha : fa name <;> cases lookup src name <;> simp

/-- **What one job does**: a successful job appends exactly the source snapshots dated on/after the start
    (the day after the target's last snapshot, or the default start when the target has none) -/
theorem syncOne_result (src tgt : Store) (dflt : Nat) (fg fa : String → Bool) (name : String) (l : List Snap)
    (hg : fg name = false) (ha : fa name = false) (hs : lookup src name = some l) :
    syncOne src tgt dflt fg fa name =
      (append tgt name (sinceF (startDay (lookup tgt name) dflt) l), false) := by
  simp [syncOne_eq, fetched, hg, ha, hs]

/-- **Fault isolation (one job)**: a failing read or append leaves the target untouched and is reported -/
theorem syncOne_failure (src tgt : Store) (dflt : Nat) (fg fa : String → Bool) (name : String)
    (h : fg name = true ∨ fa name = true ∨ lookup src name = none) :
    syncOne src tgt dflt fg fa name = (tgt, true) := by
  rw [syncOne_eq, (fetched_eq_none_iff src fg fa name).mpr h]

/-- the error flag of a job does not depend on the target -/
theorem syncOne_snd (src tgt : Store) (dflt : Nat) (fg fa : String → Bool) (name : String) :
    (syncOne src tgt dflt fg fa name).2 = (fetched src fg fa name).isNone := by
  rw [syncOne_eq]; cases fetched src fg fa name <;> rfl

/-- what the target holds after a job: only the job's own asset can change, and what it becomes depends only on
    what the target held for that asset -/
theorem lookup_syncOne (src tgt : Store) (dflt : Nat) (fg fa : String → Bool) (name m : String) :
    lookup (syncOne src tgt dflt fg fa name).1 m =
      match fetched src fg fa name with
      | some l => if m = name then
          some ((lookup tgt name).getD [] ++ sinceF (startDay (lookup tgt name) dflt) l) else lookup tgt m
      | none => lookup tgt m := by
  rw [syncOne_eq]; cases fetched src fg fa name <;> simp [C10.lookup_append]

/-- a job only touches its own asset -/
theorem syncOne_other (src tgt : Store) (dflt : Nat) (fg fa : String → Bool) (name m : String) (hm : m ≠ name) :
    lookup (syncOne src tgt dflt fg fa name).1 m = lookup tgt m := by
  rw [lookup_syncOne]; cases fetched src fg fa name <;> simp [hm]

/-- a job's effect on its own asset depends only on what the target holds for that asset -/
theorem syncOne_congr (src a b : Store) (dflt : Nat) (fg fa : String → Bool) (name : String)
    (h : lookup a name = lookup b name) :
    lookup (syncOne src a dflt fg fa name).1 name = lookup (syncOne src b dflt fg fa name).1 name ∧
    (syncOne src a dflt fg fa name).2 = (syncOne src b dflt fg fa name).2 := by
  simp only [lookup_syncOne, syncOne_snd, h, and_self]

theorem syncOne_same (src a b : Store) (dflt : Nat) (fg fa : String → Bool) (name : String) (h : Same a b) :
    Same (syncOne src a dflt fg fa name).1 (syncOne src b dflt fg fa name).1 ∧
    (syncOne src a dflt fg fa name).2 = (syncOne src b dflt fg fa name).2 :=
  ⟨fun m => by simp only [lookup_syncOne, h m, h name], by simp only [syncOne_snd]⟩

/-- **Jobs on distinct assets commute** (same target, same error reports) -/
theorem syncOne_comm (src tgt : Store) (dflt : Nat) (fg fa : String → Bool) (n1 n2 : String) (hne : n1 ≠ n2) :
    Same (syncOne src (syncOne src tgt dflt fg fa n1).1 dflt fg fa n2).1
         (syncOne src (syncOne src tgt dflt fg fa n2).1 dflt fg fa n1).1 ∧
    (syncOne src (syncOne src tgt dflt fg fa n1).1 dflt fg fa n2).2 = (syncOne src tgt dflt fg fa n2).2 ∧
    (syncOne src (syncOne src tgt dflt fg fa n2).1 dflt fg fa n1).2 = (syncOne src tgt dflt fg fa n1).2 := by
  have a21 := syncOne_congr src (syncOne src tgt dflt fg fa n1).1 tgt dflt fg fa n2
    (syncOne_other src tgt dflt fg fa n1 n2 (fun h => hne h.symm))
  have a12 := syncOne_congr src (syncOne src tgt dflt fg fa n2).1 tgt dflt fg fa n1
    (syncOne_other src tgt dflt fg fa n2 n1 hne)
  refine ⟨fun m => ?_, a21.2, a12.2⟩
  by_cases h1 : m = n1
  · subst h1
    rw [syncOne_other _ _ _ _ _ n2 m hne, a12.1]
  · by_cases h2 : m = n2
    · subst h2
      rw [a21.1, syncOne_other _ _ _ _ _ n1 m (fun h => hne h.symm)]
    · rw [syncOne_other _ _ _ _ _ _ _ h2, syncOne_other _ _ _ _ _ _ _ h1,
        syncOne_other _ _ _ _ _ _ _ h1, syncOne_other _ _ _ _ _ _ _ h2]

theorem run_same (src : Store) (dflt : Nat) (fg fa : String → Bool) (names : List String) :
    ∀ (a b : Store), Same a b → Same (run src dflt fg fa a names).1 (run src dflt fg fa b names).1 ∧
      (run src dflt fg fa a names).2 = (run src dflt fg fa b names).2 := by
  induction names with
  | nil => intro a b h; exact ⟨h, rfl⟩
  | cons n rest ih =>
    intro a b h
    obtain ⟨h1, h2⟩ := syncOne_same src a b dflt fg fa n h
    obtain ⟨i1, i2⟩ := ih _ _ h1
    simp only [run]
    exact ⟨i1, by rw [h2, i2]⟩

/-- the order of the jobs does not matter, duplicates or not: equal neighbours swap trivially, distinct ones commute -/
theorem run_perm_of_perm (src : Store) (dflt : Nat) (fg fa : String → Bool) {l1 l2 : List String}
    (hp : l1.Perm l2) : ∀ (tgt : Store),
    Same (run src dflt fg fa tgt l1).1 (run src dflt fg fa tgt l2).1 ∧
    (run src dflt fg fa tgt l1).2 = (run src dflt fg fa tgt l2).2 := by
  induction hp with
  | nil => intro tgt; exact ⟨Same.refl _, rfl⟩
  | cons x _ ih =>
    intro tgt
    simp only [run]
    obtain ⟨i1, i2⟩ := ih (syncOne src tgt dflt fg fa x).1
    exact ⟨i1, by rw [i2]⟩
  | swap x y l =>
    intro tgt
    by_cases hxy : y = x
    · subst hxy; exact ⟨Same.refl _, rfl⟩
    simp only [run]
    obtain ⟨c1, c2, c3⟩ := syncOne_comm src tgt dflt fg fa y x hxy
    obtain ⟨r1, r2⟩ := run_same src dflt fg fa l _ _ c1
    refine ⟨r1, ?_⟩
    rw [r2, c2, c3, Bool.or_left_comm]
  | trans _ _ ih1 ih2 =>
    intro tgt
    exact ⟨Same.trans (ih1 tgt).1 (ih2 tgt).1, (ih1 tgt).2.trans (ih2 tgt).2⟩

/-- **Worker independence**: any permutation of the job list (assets without duplicates) — i.e. any
    assignment of whole jobs to workers and any order in which they finish — yields the same target
    contents and the same error report. -/
theorem run_perm (src : Store) (dflt : Nat) (fg fa : String → Bool) {l1 l2 : List String} (hp : l1.Perm l2)
    (hnd : l1.Nodup) : ∀ (tgt : Store),
    Same (run src dflt fg fa tgt l1).1 (run src dflt fg fa tgt l2).1 ∧
    (run src dflt fg fa tgt l1).2 = (run src dflt fg fa tgt l2).2 :=
  run_perm_of_perm src dflt fg fa hp

/-- **Fault isolation (whole run)**: the error is reported iff some job failed, and every asset whose job
    did not fail is synchronised exactly as if it had been run alone -/
theorem run_reports_errors (src : Store) (dflt : Nat) (fg fa : String → Bool) (names : List String) :
    ∀ (tgt : Store), (run src dflt fg fa tgt names).2 = true →
      ∃ n ∈ names, fg n = true ∨ fa n = true ∨ lookup src n = none := by
  induction names with
  | nil => intro tgt h; simp [run] at h
  | cons n rest ih =>
    intro tgt h
    simp only [run, Bool.or_eq_true] at h
    rcases h with h | h
    · rw [syncOne_snd, Option.isNone_iff_eq_none, fetched_eq_none_iff] at h
      exact ⟨n, by simp, h⟩
    · obtain ⟨m, hm, hf⟩ := ih _ h
      exact ⟨m, by simp [hm], hf⟩

/-! ### idempotence -/

/-- date-sorted (non-decreasing) -/
def Sorted (l : List Snap) : Prop := l.Pairwise (fun a b => a.day ≤ b.day)

theorem sinceF_nil_of_all_lt (d : Nat) (l : List Snap) (h : ∀ s ∈ l, s.day < d) : sinceF d l = [] := by
  unfold sinceF
  rw [List.filter_eq_nil_iff]
  intro s hs; have := h s hs; simp; omega

theorem sorted_le_last (l : List Snap) (hs : Sorted l) (x : Snap) (hx : l.getLast? = some x) :
    ∀ s ∈ l, s.day ≤ x.day := by
  obtain ⟨ys, rfl⟩ := List.getLast?_eq_some_iff.mp hx
  intro s hsm
  rcases List.mem_append.mp hsm with h | h
  · exact (List.pairwise_append.mp hs).2.2 s h x (List.mem_singleton.mpr rfl)
  · rw [List.mem_singleton.mp h]; exact Nat.le_refl _

/-- in a date-sorted list the last entry is kept whenever anything is -/
theorem getLast_sinceF (d : Nat) (l : List Snap) (hs : Sorted l) (x : Snap)
    (hx : (sinceF d l).getLast? = some x) : l.getLast? = some x := by
  cases hl : l.getLast? with
  | none => rw [List.getLast?_eq_none_iff.mp hl] at hx; simp [sinceF] at hx
  | some y =>
    by_cases hy : d ≤ y.day
    · obtain ⟨ys, rfl⟩ := List.getLast?_eq_some_iff.mp hl
      simpa [sinceF, List.filter_append, hy] using hx
    · rw [sinceF_nil_of_all_lt d l fun s hsm => by have := sorted_le_last l hs y hl s hsm; omega] at hx
      simp at hx

/-- the dates behind idempotence, with no store in sight: once a job has added `sinceF (startDay held dflt) l` to
    what the target held, the next start day lies beyond every entry of the date-sorted `l` -/
theorem sinceF_startDay_eq_nil (l : List Snap) (hsorted : Sorted l) (held : Option (List Snap)) (dflt : Nat) :
    sinceF (startDay (some (held.getD [] ++ sinceF (startDay held dflt) l)) dflt) l = [] := by
  generalize hstart : startDay held dflt = start
  by_cases hcop : sinceF start l = []
  · -- nothing was copied: the target's last date (hence the start) is unchanged
    have : startDay (some (held.getD [] ++ sinceF start l)) dflt = start := by
      rw [hcop, List.append_nil, ← hstart]
      cases held <;> simp [startDay]
    rw [this]; exact hcop
  · -- the last copied entry is the last of `l`, and the next start is the day after it
    obtain ⟨x, hx⟩ := Option.ne_none_iff_exists'.mp (mt List.getLast?_eq_none_iff.mp hcop)
    have hlast : (held.getD [] ++ sinceF start l).getLast? = some x := by
      rw [List.getLast?_append, hx]; simp
    have hsd : startDay (some (held.getD [] ++ sinceF start l)) dflt = x.day + 1 := by
      simp [startDay, hlast]
    rw [hsd]
    apply sinceF_nil_of_all_lt
    intro s hsm
    have := sorted_le_last l hsorted x (getLast_sinceF start l hsorted x hx) s hsm
    omega

/-- **Idempotence**: after a successful job, running the same job again appends nothing
    (source date-sorted; the target's snapshots for that asset end no later than they did before plus what was copied). -/
theorem syncOne_idempotent (src tgt : Store) (dflt : Nat) (name : String) (l : List Snap)
    (hs : lookup src name = some l) (hsorted : Sorted l) :
    let t1 := (syncOne src tgt dflt (fun _ => false) (fun _ => false) name).1
    Same (syncOne src t1 dflt (fun _ => false) (fun _ => false) name).1 t1 := by
  intro t1 m
  have hf : fetched src (fun _ => false) (fun _ => false) name = some l := by simp [fetched, hs]
  by_cases hm : m = name
  · subst hm
    have hl1 : lookup t1 m = some ((lookup tgt m).getD [] ++ sinceF (startDay (lookup tgt m) dflt) l) := by
      simp [t1, lookup_syncOne, hf]
    simp [lookup_syncOne, hf, hl1, sinceF_startDay_eq_nil l hsorted]
  · rw [syncOne_other _ _ _ _ _ _ _ hm]

/-! non-vacuity: a concrete run (two assets, one failing source read) -/
example :
    let src : Store := [("a", [⟨1, 1⟩, ⟨2, 2⟩, ⟨3, 3⟩]), ("b", [⟨5, 4⟩])]
    let tgt : Store := [("a", [⟨1, 9⟩])]
    run src 0 (fun n => n == "b") (fun _ => false) tgt ["a", "b"]
      = ([("a", [⟨1, 9⟩, ⟨2, 2⟩, ⟨3, 3⟩])], true) := by decide

end C12
