import IndicatorVerif.Props.C03Change
import IndicatorVerif.Model.NetWindow
import IndicatorVerif.Model.NetSma
/-
  C03 — clean termination PROVED for the whole family of window pipelines
      cs := Duplicate(c, 2); cs[1] = Shift(cs[1], p, 0); out := Operate(cs[0], cs[1], closure); Skip(out, p−1)
  with an ARBITRARY stateful closure (`NetM.winNet f`), for every input, every period p ≥ 1, every input capacity,
  every `Shift` buffer ≥ p and every schedule.  `trend.MovingSum` (running sum), `trend.MovingMax` and
  `trend.MovingMin` (a search tree holding the window) are instances.

  ONE canonical run serves all of them, and `msumNet` (C03MovingSum) and `smaNet` (C03Sma) as well.  The network is a
  variable: what is used of it is that processes 0, 1, 2, 4 are the library's machines on unbuffered channels
  (`WinLike`), that process 3 behaves like the repaired Operate with a stateful closure `f` on local states `⟨0, st⟩`
  (`OpLike`: `sumOp` with `f := sumStepW`, `winOp f` with `f`), and what the processes from 5 on do with a value that
  Skip offers on channel 5 (`Consumer`: the reader alone for MovingSum / Max / Min; `Apply` and the reader for Sma).
  States are in `tcons` normal form with a variable tail, so the same run serves six- and seven-process networks.
-/
namespace C03
open Net NetM

/-- what the stateful Operate emits from closure state `st`, shifted queue `q` and remaining input -/
def winOuts (f : List Int → Int → Int → List Int × Int) : List Int → List Int → List Int → List Int
  | _, _, [] => []
  | _, [], _ :: _ => []
  | st, y :: q, x :: rest => (f st x y).2 :: winOuts f (f st x y).1 (q ++ [x]) rest

/-- `m` behaves like the repaired `Operate(a, b, f)` (close, then drain) on the local states `⟨0, st⟩` -/
structure OpLike (m : Loc → A) (a b o : Nat) (f : List Int → Int → Int → List Int × Int) : Prop where
  work : ∀ st, ∃ k, m ⟨0, st⟩ = .recv a k ∧ m (k none) = .close o ⟨10, []⟩ ∧
    ∀ x, ∃ k', m (k (some x)) = .recv b k' ∧ ∀ y, m (k' (some y)) = .send o (f st x y).2 ⟨0, (f st x y).1⟩
  drain : m ⟨10, []⟩ = .recv b (fun r => match r with | some _ => ⟨10, []⟩ | none => ⟨31, []⟩)
  halt : m ⟨31, []⟩ = .halt

theorem winOp_opLike (f : List Int → Int → Int → List Int × Int) (a b o : Nat) : OpLike (winOp f a b o) a b o f :=
  ⟨fun _ => ⟨_, rfl, rfl, fun _ => ⟨_, rfl, fun _ => rfl⟩⟩, rfl, rfl⟩

theorem sumOp_opLike (a b o : Nat) : OpLike (sumOp a b o) a b o sumStepW :=
  ⟨fun _ => ⟨_, rfl, rfl, fun _ => ⟨_, rfl, fun _ => rfl⟩⟩, rfl, rfl⟩

/-- processes 0 … 4 and channels 0 … 4 of a window pipeline -/
structure WinLike (N : Network Loc Int) (f : List Int → Int → Int → List Int × Int) (buf : Nat) : Prop where
  act0 : ∀ l, N.act 0 l = producer 0 l
  act1 : ∀ l, N.act 1 l = dup2 0 1 2 l
  act2 : ∀ l, N.act 2 l = shiftM 2 3 l
  op : OpLike (N.act 3) 1 3 4 f
  act4 : ∀ l, N.act 4 l = skipM 4 5 l
  cap0 : N.cap 0 = 0
  cap1 : N.cap 1 = 0
  cap2 : N.cap 2 = 0
  cap3 : N.cap 3 = buf
  cap4 : N.cap 4 = 0

section Generic
variable {N : Network Loc Int} {f : List Int → Int → Int → List Int × Int} {buf : Nat}

/-- round-start state: `rest` to be produced, `q` in the Shift channel, `m` fill values still to send, closure state `st`,
    `r` results still to skip; `T`, `CT`: the processes and channels from 5 on -/
def Wst (rest q : List Int) (m : Nat) (st : List Int) (r : Nat) (T : Nat → PS Loc) (CT : Nat → CS Int) : St Loc Int :=
  ⟨tcons (⟨0, rest⟩, none) (tcons (⟨0, []⟩, none) (tcons (⟨0, [(m : Int)]⟩, none) (tcons (⟨0, st⟩, none)
     (tcons (⟨0, [(r : Int)]⟩, none) T)))),
   tcons ([], false) (tcons ([], false) (tcons ([], false) (tcons (q, false) (tcons ([], false) CT))))⟩

/-- the input has ended and all of 0 … 4 but the Operate have finished; the Operate (at `l3`) drains the Shift channel -/
def Wend (l3 : Loc) (q : List Int) (T : Nat → PS Loc) (CT : Nat → CS Int) : St Loc Int :=
  ⟨tcons (⟨1, []⟩, none) (tcons (⟨5, []⟩, none) (tcons (⟨3, []⟩, none) (tcons (l3, none) (tcons (⟨3, []⟩, none) T)))),
   tcons ([], true) (tcons ([], true) (tcons ([], true) (tcons (q, true) (tcons ([], true) CT))))⟩

/-- what the processes from 5 on do: `T vs` is their state after Skip has handed them the values `vs` (channels `CT`),
    `Te vs`, `CTe` after Skip has closed channel 5 -/
structure Consumer (N : Network Loc Int) (T Te : List Int → Nat → PS Loc) (CT CTe : Nat → CS Int) : Prop where
  deliver : ∀ (l0 l1 l2 l3 : PS Loc) (c0 c1 c2 c3 c4 : CS Int) (v : Int) (vs : List Int),
    Reach N
      ⟨tcons l0 (tcons l1 (tcons l2 (tcons l3 (tcons (⟨1, [0, v]⟩, none) (T vs))))),
       tcons c0 (tcons c1 (tcons c2 (tcons c3 (tcons c4 CT))))⟩
      ⟨tcons l0 (tcons l1 (tcons l2 (tcons l3 (tcons (⟨0, [0]⟩, none) (T (vs ++ [v])))))),
       tcons c0 (tcons c1 (tcons c2 (tcons c3 (tcons c4 CT))))⟩
  finish : ∀ (l0 l1 l2 l3 : PS Loc) (c0 c1 c2 c3 c4 : CS Int) (vs : List Int),
    Reach N
      ⟨tcons l0 (tcons l1 (tcons l2 (tcons l3 (tcons (⟨2, []⟩, none) (T vs))))),
       tcons c0 (tcons c1 (tcons c2 (tcons c3 (tcons c4 CT))))⟩
      ⟨tcons l0 (tcons l1 (tcons l2 (tcons l3 (tcons (⟨3, []⟩, none) (Te vs))))),
       tcons c0 (tcons c1 (tcons c2 (tcons c3 (tcons c4 CTe))))⟩
  halted : ∀ vs j, (Te vs j).2 = none ∧ N.act (j + 5) (Te vs j).1 = .halt

section Front
variable (H : WinLike N f buf)
include H

/-- Shift sends its fill values -/
theorem front_fills (rest st : List Int) (r : Nat) (T : Nat → PS Loc) (CT : Nat → CS Int) (m : Nat) (q : List Int)
    (h : q.length + m = buf) :
    Reach N (Wst rest q m st r T CT) (Wst rest (q ++ List.replicate m 0) 0 st r T CT) := by
  induction m generalizing q with
  | zero => simpa using Reach.refl N _
  | succ m ih =>
    refine (send_buffered 2 3 rfl ((H.act2 _).trans (shiftM_fill 2 3 m)) rfl (by rw [H.cap3]; omega)).trans ?_
    have := ih (q ++ [0]) (by simp; omega)
    simpa [Wst, List.replicate_succ] using this

/-- one input value goes through Duplicate, Shift and the Operate; Skip receives the result `(f st x y).2` (state `l4'`
    of Skip afterwards, given its state `l4` before and what it does on receiving) -/
theorem front_round (x y : Int) (rest q st : List Int) (l4 : Loc) (k4 : Option Int → Loc) (T : Nat → PS Loc)
    (CT : Nat → CS Int) (hq : q.length < buf) (h4 : N.act 4 l4 = .recv 4 k4) :
    Reach N
      ⟨tcons (⟨0, x :: rest⟩, none) (tcons (⟨0, []⟩, none) (tcons (⟨0, [0]⟩, none) (tcons (⟨0, st⟩, none)
         (tcons (l4, none) T)))),
       tcons ([], false) (tcons ([], false) (tcons ([], false) (tcons (y :: q, false) (tcons ([], false) CT))))⟩
      ⟨tcons (⟨0, rest⟩, none) (tcons (⟨0, []⟩, none) (tcons (⟨0, [0]⟩, none) (tcons (⟨0, (f st x y).1⟩, none)
         (tcons (k4 (some (f st x y).2), none) T)))),
       tcons ([], false) (tcons ([], false) (tcons ([], false) (tcons (q ++ [x], false) (tcons ([], false) CT))))⟩ := by
  obtain ⟨k, e0, _, hk⟩ := H.op.work st
  obtain ⟨k', e1, e2⟩ := hk x
  refine (handover 0 1 0 (by decide) rfl ((H.act0 _).trans rfl) rfl ((H.act1 _).trans rfl) H.cap0 rfl).trans ?_
  refine (handover 1 3 1 (by decide) rfl ((H.act1 _).trans rfl) rfl e0 H.cap1 rfl).trans ?_
  refine (handover 1 2 2 (by decide) rfl ((H.act1 _).trans rfl) rfl ((H.act2 _).trans rfl) H.cap2 rfl).trans ?_
  refine (recv_queued 3 3 rfl e1 rfl).trans ?_
  refine (send_buffered 2 3 rfl ((H.act2 _).trans rfl) rfl (by rw [H.cap3]; exact hq)).trans ?_
  refine (handover 3 4 4 (by decide) rfl (e2 y) rfl h4 H.cap4 rfl).trans (.of_eq ?_)
  simp

/-- the input is exhausted: the closes propagate down to Skip (at `l4`); the Operate closes its output before draining -/
theorem front_end (q st : List Int) (l4 : Loc) (k4 : Option Int → Loc) (T : Nat → PS Loc) (CT : Nat → CS Int)
    (h4 : N.act 4 l4 = .recv 4 k4) :
    Reach N
      ⟨tcons (⟨0, []⟩, none) (tcons (⟨0, []⟩, none) (tcons (⟨0, [0]⟩, none) (tcons (⟨0, st⟩, none)
         (tcons (l4, none) T)))),
       tcons ([], false) (tcons ([], false) (tcons ([], false) (tcons (q, false) (tcons ([], false) CT))))⟩
      ⟨tcons (⟨1, []⟩, none) (tcons (⟨5, []⟩, none) (tcons (⟨3, []⟩, none) (tcons (⟨10, []⟩, none)
         (tcons (k4 none, none) T)))),
       tcons ([], true) (tcons ([], true) (tcons ([], true) (tcons (q, true) (tcons ([], true) CT))))⟩ := by
  obtain ⟨k, e0, e1, _⟩ := H.op.work st
  refine (close_recv 0 1 0 (by decide) rfl ((H.act0 _).trans rfl) rfl ((H.act1 _).trans rfl) rfl).trans ?_
  refine (close_chan 1 1 rfl ((H.act1 _).trans rfl) rfl).trans ?_
  refine (close_recv 1 2 2 (by decide) rfl ((H.act1 _).trans rfl) rfl ((H.act2 _).trans rfl) rfl).trans ?_
  refine (close_chan 2 3 rfl ((H.act2 _).trans rfl) rfl).trans ?_
  refine (recv_closed 3 1 rfl e0 rfl).trans ?_
  refine (close_recv 3 4 4 (by decide) rfl e1 rfl h4 rfl).trans (.of_eq ?_)
  simp

/-- the Operate drains what is left in the Shift channel -/
theorem front_drain (q : List Int) (T : Nat → PS Loc) (CT : Nat → CS Int) :
    Reach N (Wend ⟨10, []⟩ q T CT) (Wend ⟨31, []⟩ [] T CT) := by
  induction q with
  | nil =>
    refine (recv_closed 3 3 rfl H.op.drain rfl).trans (.of_eq ?_)
    simp [Wend]
  | cons y q ih =>
    refine (recv_queued 3 3 rfl H.op.drain rfl).trans ?_
    simpa [Wend] using ih

variable {T Te : List Int → Nat → PS Loc} {CT CTe : Nat → CS Int} (K : Consumer N T Te CT CTe)
include K

/-- **the canonical run**: from any round-start state with a full Shift channel some schedule ends with processes
    0 … 4 finished, channels 0 … 4 closed and empty, and the consumer having been handed the closure's results -/
theorem front_canonical_run (xs q st : List Int) (r : Nat) (vs : List Int) (hb : 1 ≤ buf)
    (hinv : q.length = buf) :
    Reach N (Wst xs q 0 st r (T vs) CT) (Wend ⟨31, []⟩ [] (Te (vs ++ (winOuts f st q xs).drop r)) CTe) := by
  induction xs generalizing q st r vs with
  | nil =>
    have e : winOuts f st q [] = [] := by cases q <;> rfl
    rw [e, List.drop_nil, List.append_nil]
    have h0 := (K.finish _ _ _ _ _ _ _ _ _ vs).trans (front_drain H q _ _)
    cases r with
    | zero => exact (front_end H q st _ _ (T vs) CT ((H.act4 ⟨0, [0]⟩).trans rfl)).trans h0
    | succ r =>
      refine (front_end H q st _ _ _ _ ((H.act4 _).trans (skipM_skip 4 5 r))).trans ?_
      refine (recv_closed 4 4 rfl ((H.act4 _).trans rfl) rfl).trans ?_
      simpa using h0
  | cons x rest ih =>
    cases q with
    | nil => simp at hinv; omega
    | cons y q =>
      have hq : q.length < buf := by simp at hinv; omega
      have hq' : (q ++ [x]).length = buf := by simp at hinv ⊢; omega
      cases r with
      | zero =>
        refine (front_round H x y rest q st _ _ _ _ hq ((H.act4 ⟨0, [0]⟩).trans rfl)).trans ?_
        refine (K.deliver _ _ _ _ _ _ _ _ _ _ vs).trans ?_
        simpa [winOuts, Wst] using ih (q ++ [x]) (f st x y).1 0 (vs ++ [(f st x y).2]) hq'
      | succ r =>
        refine (front_round H x y rest q st _ _ _ _ hq ((H.act4 _).trans (skipM_skip 4 5 r))).trans ?_
        simpa [winOuts, Wst] using ih (q ++ [x]) (f st x y).1 r vs hq'

/-- in the final state of the canonical run every process has halted -/
theorem front_allHalted (vs : List Int) : AllHalted N (Wend ⟨31, []⟩ [] (Te vs) CTe) := fun p =>
  match p with
  | 0 => ⟨rfl, (H.act0 _).trans rfl⟩
  | 1 => ⟨rfl, (H.act1 _).trans rfl⟩
  | 2 => ⟨rfl, (H.act2 _).trans rfl⟩
  | 3 => ⟨rfl, H.op.halt⟩
  | 4 => ⟨rfl, (H.act4 _).trans rfl⟩
  | j + 5 => K.halted vs j

/-- the canonical run from the initial state: Shift's fill values first -/
theorem front_canonical (hb : 1 ≤ buf) (xs st0 : List Int) (r : Nat) :
    Reach N (Wst xs [] buf st0 r (T []) CT)
      (Wend ⟨31, []⟩ [] (Te ((winOuts f st0 (List.replicate buf 0) xs).drop r)) CTe) := by
  refine (front_fills H xs st0 r _ _ buf [] (by simp)).trans ?_
  simpa using front_canonical_run H K xs (List.replicate buf 0) st0 r [] hb (by simp)

end Front

/-! ### the two consumers -/

/-- the independent reader alone (MovingSum, MovingMax, MovingMin) -/
theorem sink_consumer (N : Network Loc Int) (h4 : ∀ l, N.act 4 l = skipM 4 5 l) (h5 : ∀ l, N.act 5 l = sink 5 l)
    (h6 : ∀ j l, N.act (j + 6) l = .halt) (c5 : N.cap 5 = 0) (D : Nat → PS Loc) (hD : ∀ j, (D j).2 = none)
    (E : Nat → CS Int) :
    Consumer N (fun vs => tcons (⟨0, vs⟩, none) D) (fun vs => tcons (⟨1, vs⟩, none) D)
      (tcons ([], false) E) (tcons ([], true) E) where
  deliver := fun _ _ _ _ _ _ _ _ _ _ _ =>
    (handover 4 5 5 (by decide) rfl ((h4 _).trans rfl) rfl ((h5 _).trans rfl) c5 rfl).trans
      (.of_eq (by simp))
  finish := fun _ _ _ _ _ _ _ _ _ _ =>
    (close_recv 4 5 5 (by decide) rfl ((h4 _).trans rfl) rfl ((h5 _).trans rfl) rfl).trans
      (.of_eq (by simp))
  halted := fun _ j =>
    match j with
    | 0 => ⟨rfl, (h5 _).trans rfl⟩
    | j + 1 => ⟨hD j, h6 j _⟩

/-- `Apply(·, g)` followed by the independent reader (Sma) -/
theorem map_consumer (N : Network Loc Int) (g : Int → Int) (h4 : ∀ l, N.act 4 l = skipM 4 5 l)
    (h5 : ∀ l, N.act 5 l = mapM g 5 6 l) (h6 : ∀ l, N.act 6 l = sink 6 l) (h7 : ∀ j l, N.act (j + 7) l = .halt)
    (c5 : N.cap 5 = 0) (c6 : N.cap 6 = 0) (D : Nat → PS Loc) (hD : ∀ j, (D j).2 = none) (E : Nat → CS Int) :
    Consumer N (fun vs => tcons (⟨0, []⟩, none) (tcons (⟨0, vs.map g⟩, none) D))
      (fun vs => tcons (⟨3, []⟩, none) (tcons (⟨1, vs.map g⟩, none) D))
      (tcons ([], false) (tcons ([], false) E)) (tcons ([], true) (tcons ([], true) E)) where
  deliver := fun _ _ _ _ _ _ _ _ _ _ _ =>
    (handover 4 5 5 (by decide) rfl ((h4 _).trans rfl) rfl ((h5 _).trans rfl) c5 rfl).trans
      ((handover 5 6 6 (by decide) rfl ((h5 _).trans rfl) rfl ((h6 _).trans rfl) c6 rfl).trans
        (.of_eq (by simp)))
  finish := fun _ _ _ _ _ _ _ _ _ _ =>
    (close_recv 4 5 5 (by decide) rfl ((h4 _).trans rfl) rfl ((h5 _).trans rfl) rfl).trans
      ((close_recv 5 6 6 (by decide) rfl ((h5 _).trans rfl) rfl ((h6 _).trans rfl) rfl).trans
        (.of_eq (by simp)))
  halted := fun _ j =>
    match j with
    | 0 => ⟨rfl, (h5 _).trans rfl⟩
    | 1 => ⟨rfl, (h6 _).trans rfl⟩
    | j + 2 => ⟨hD j, h7 j _⟩

end Generic

def D0 : Nat → PS Loc := fun _ => (⟨0, []⟩, none)
def E0 : Nat → CS Int := fun _ => ([], false)

/-! ### `winNet f` -/

theorem winNet_winLike (f : List Int → Int → Int → List Int × Int) (p : Nat) : WinLike (winNet f 0 p) f p :=
  ⟨fun _ => rfl, fun _ => rfl, fun _ => rfl, winOp_opLike f 1 3 4, fun _ => rfl, rfl, rfl, rfl, rfl, rfl⟩

theorem winNet_consumer (f : List Int → Int → Int → List Int × Int) (p : Nat) :
    Consumer (winNet f 0 p) (fun vs => tcons (⟨0, vs⟩, none) D0) (fun vs => tcons (⟨1, vs⟩, none) D0)
      (tcons ([], false) E0) (tcons ([], true) E0) :=
  sink_consumer (winNet f 0 p) (fun _ => rfl) (fun _ => rfl) (fun _ _ => rfl) rfl D0 (fun _ => rfl) E0

theorem winInit_eq (st0 xs : List Int) (p : Nat) (hp : 1 ≤ p) :
    winInit st0 xs p = Wst xs [] p st0 (p - 1) (tcons (⟨0, []⟩, none) D0) (tcons ([], false) E0) := by
  have e : ((p - 1 : Nat) : Int) = (p : Int) - 1 := by omega
  simp only [winInit, Wst, e]
  congr 1
  · funext q
    match q with
    | 0 | 1 | 2 | 3 | 4 | 5 => rfl
    | n + 6 => rfl
  · funext c
    match c with
    | 0 | 1 | 2 | 3 | 4 | 5 => rfl
    | n + 6 => rfl

theorem winNet_owned (f : List Int → Int → Int → List Int × Int) (cap buf : Nat) : Owned (winNet f cap buf) :=
  owned_of_ports_chk _ fun p => match p with
  | 0 => ⟨[], [0], producer_ports 0, rfl⟩
  | 1 => ⟨[0], [1, 2], dup2_ports 0 1 2, rfl⟩
  | 2 => ⟨[2], [3], shiftM_ports 2 3, rfl⟩
  | 3 => ⟨[1, 3], [4], winOp_ports f 1 3 4, rfl⟩
  | 4 => ⟨[4], [5], skipM_ports 4 5, rfl⟩
  | 5 => ⟨[5], [], sink_ports 5, rfl⟩
  | _ + 6 => ⟨[], [], halt_ports, rfl⟩

theorem winInit_wf (f : List Int → Int → Int → List Int × Int) (cap buf : Nat) (st0 xs : List Int) (p : Nat) :
    WF (winNet f cap buf) (winInit st0 xs p) := by
  intro q c h
  simp only [winInit] at h
  split at h <;> simp at h

theorem winNet_larger (f : List Int → Int → Int → List Int × Int) (cap buf p : Nat) (hb : p ≤ buf) :
    Larger (winNet f 0 p) (winNet f cap buf) := by
  constructor
  · rfl
  · intro c
    simp only [winNet]
    split <;> omega

/-- **every window pipeline terminates cleanly and delivers `winOuts` — for every stateful closure `f`, every initial
    closure state, every input, every period `p ≥ 1`, every input-channel capacity, every Shift buffer ≥ p and every
    schedule:** every execution has at most `bound` steps, and any execution that can go no further has every process
    finished, every channel closed and empty, and has delivered exactly the closure's results (minus the first `p − 1`)
    to the independent reader. -/
theorem window_terminates_cleanly (f : List Int → Int → Int → List Int × Int) (st0 : List Int) (xs : List Int)
    (p cap buf : Nat) (hp : 1 ≤ p) (hb : p ≤ buf) :
    ∃ bound, ∀ t s2, run (winNet f cap buf) t (winInit st0 xs p) = some s2 →
      t.length ≤ bound ∧
      (Terminal (winNet f cap buf) s2 →
        AllHalted (winNet f cap buf) s2 ∧ (∀ c, s2.chans c = ([], true) ∨ 6 ≤ c) ∧
        (s2.procs 5).1.reg = (winOuts f st0 (List.replicate p 0) xs).drop (p - 1)) := by
  have hr := front_canonical (winNet_winLike f p) (winNet_consumer f p) hp xs st0 (p - 1)
  rw [← winInit_eq st0 xs p hp] at hr
  obtain ⟨⟨b, h⟩, hA, -⟩ := clean_of_reach _ _ (winNet_larger f cap buf p hb) _ _
    (owned_safe _ (winNet_owned f cap buf) _ (winInit_wf f cap buf st0 xs p)) hr
    (front_allHalted (winNet_winLike f p) (winNet_consumer f p) _)
  refine ⟨b, fun t s2 h2 => ⟨(h t s2 h2).1, fun hT => ?_⟩⟩
  obtain rfl := (h t s2 h2).2 hT
  refine ⟨hA, fun c => ?_, rfl⟩
  match c with
  | 0 | 1 | 2 | 3 | 4 | 5 => exact .inl rfl
  | n + 6 => exact .inr (by omega)

/-- the library's own buffering: `Shift` allocates `cap(input) + p` -/
theorem window_library_buffers (f : List Int → Int → Int → List Int × Int) (st0 xs : List Int) (p cap : Nat)
    (hp : 1 ≤ p) :
    ∃ bound, ∀ t s2, run (winNet f cap (cap + p)) t (winInit st0 xs p) = some s2 →
      t.length ≤ bound ∧ (Terminal (winNet f cap (cap + p)) s2 → AllHalted (winNet f cap (cap + p)) s2) := by
  obtain ⟨b, h⟩ := window_terminates_cleanly f st0 xs p cap (cap + p) hp (by omega)
  exact ⟨b, fun t s2 h2 => ⟨(h t s2 h2).1, fun hT => ((h t s2 h2).2 hT).1⟩⟩

/-! ### instance (b): moving maximum / minimum (`trend.MovingMax`, `trend.MovingMin`) -/

/-- `trend.MovingMax` terminates cleanly: the instance `f := maxStep p`, initial state `[0]` (nothing inserted) -/
theorem movingMax_terminates_cleanly (xs : List Int) (p cap buf : Nat) (hp : 1 ≤ p) (hb : p ≤ buf) :
    ∃ bound, ∀ t s2, run (winNet (maxStep p) cap buf) t (winInit [0] xs p) = some s2 →
      t.length ≤ bound ∧
      (Terminal (winNet (maxStep p) cap buf) s2 →
        AllHalted (winNet (maxStep p) cap buf) s2 ∧ (∀ c, s2.chans c = ([], true) ∨ 6 ≤ c) ∧
        (s2.procs 5).1.reg = (winOuts (maxStep p) [0] (List.replicate p 0) xs).drop (p - 1)) :=
  window_terminates_cleanly (maxStep p) [0] xs p cap buf hp hb

/-- `trend.MovingMin` terminates cleanly: the instance `f := minStep p`, initial state `[0]` -/
theorem movingMin_terminates_cleanly (xs : List Int) (p cap buf : Nat) (hp : 1 ≤ p) (hb : p ≤ buf) :
    ∃ bound, ∀ t s2, run (winNet (minStep p) cap buf) t (winInit [0] xs p) = some s2 →
      t.length ≤ bound ∧
      (Terminal (winNet (minStep p) cap buf) s2 →
        AllHalted (winNet (minStep p) cap buf) s2 ∧ (∀ c, s2.chans c = ([], true) ∨ 6 ≤ c) ∧
        (s2.procs 5).1.reg = (winOuts (minStep p) [0] (List.replicate p 0) xs).drop (p - 1)) :=
  window_terminates_cleanly (minStep p) [0] xs p cap buf hp hb

/-- the successive windows: append the new value, drop the oldest one once `p` values are held -/
def wins (p : Nat) : List Int → List Int → List (List Int)
  | _, [] => []
  | w, x :: rest =>
    (if w.length < p then w ++ [x] else (w ++ [x]).tail)
      :: wins p (if w.length < p then w ++ [x] else (w ++ [x]).tail) rest

/-- with the shifted queue holding the fill values still to come followed by the window, the closure's results are `g`
    of the successive windows -/
theorem winOuts_pickStep (g : List Int → Int) (p : Nat) (hp : 1 ≤ p) (xs w q : List Int) (hw : w.length ≤ p)
    (hq : q = List.replicate (p - w.length) 0 ++ w) :
    winOuts (pickStep g p) ((w.length : Int) :: w) q xs = (wins p w xs).map g := by
  induction xs generalizing w q with
  | nil => cases q <;> simp [winOuts, wins]
  | cons x rest ih =>
    by_cases hlt : w.length < p
    · obtain ⟨k, hk⟩ : ∃ k, p - w.length = k + 1 := ⟨p - w.length - 1, by omega⟩
      have hc : (w.length : Int) < (p : Int) := by omega
      rw [hk, List.replicate_succ] at hq
      subst hq
      have e1 : (↑w.length + 1 : Int) = (((w ++ [x]).length : Nat) : Int) := by simp
      have e2 : List.replicate k 0 ++ w ++ [x] = List.replicate (p - (w ++ [x]).length) 0 ++ (w ++ [x]) := by
        have : p - (w ++ [x]).length = k := by simp; omega
        rw [this]; simp
      simp only [List.cons_append, winOuts, wins, pickStep, windowStep, List.headD_cons, List.tail_cons, hc, hlt,
        if_true, List.map_cons]
      rw [e1, ih (w ++ [x]) _ (by simp; omega) e2]
    · have hl : w.length = p := by omega
      have hc : ¬ ((w.length : Int) < (p : Int)) := by omega
      have h0 : p - w.length = 0 := by omega
      rw [h0] at hq
      simp only [List.replicate_zero, List.nil_append] at hq
      subst q
      cases w with
      | nil => simp at hl; omega
      | cons y w0 =>
        have e1 : (((y :: w0).length : Nat) : Int) = (((w0 ++ [x]).length : Nat) : Int) := by simp
        have e2 : w0 ++ [x] = List.replicate (p - (w0 ++ [x]).length) 0 ++ (w0 ++ [x]) := by
          have : p - (w0 ++ [x]).length = 0 := by simp at hl ⊢; omega
          rw [this]; simp
        simp only [winOuts, wins, pickStep, windowStep, List.headD_cons, List.tail_cons, hc, hlt,
          if_false, List.map_cons, List.cons_append, List.erase_cons_head]
        rw [e1, ih (w0 ++ [x]) _ (by simp at hl ⊢; omega) e2]

theorem wins_eq (p : Nat) (hp : 1 ≤ p) (xs w : List Int) (hw : w.length ≤ p) :
    wins p w xs = (List.range xs.length).map
      (fun i => ((w ++ xs).take (w.length + i + 1)).drop (w.length + i + 1 - p)) := by
  induction xs generalizing w with
  | nil => simp [wins]
  | cons x rest ih =>
    rw [List.length_cons, List.range_succ_eq_map, List.map_cons, List.map_map, wins]
    by_cases hlt : w.length < p
    · simp only [hlt, if_true]
      rw [ih (w ++ [x]) (by simp; omega)]
      congr 1
      · have : w.length + 0 + 1 - p = 0 := by omega
        rw [this, List.drop_zero]
        have : w.length + 0 + 1 = (w ++ [x]).length := by simp
        rw [this, show w ++ x :: rest = (w ++ [x]) ++ rest by simp, List.take_left]
      · apply List.map_congr_left
        intro i _
        simp only [Function.comp, List.length_append, List.length_cons, List.length_nil, List.append_assoc,
          List.cons_append, List.nil_append]
        rw [show w.length + (0 + 1) + i + 1 = w.length + i.succ + 1 by omega]
    · have hl : w.length = p := by omega
      simp only [hlt, if_false]
      cases w with
      | nil => simp at hl; omega
      | cons y w0 =>
        simp only [List.cons_append, List.tail_cons]
        rw [ih (w0 ++ [x]) (by simp at hl ⊢; omega)]
        simp only [List.length_cons] at hl
        congr 1
        · have : w0.length + 1 + 0 + 1 - p = 1 := by omega
          simp only [List.length_cons, this]
          rw [List.take_succ_cons, List.drop_succ_cons, List.drop_zero]
          have : w0.length + 1 + 0 = (w0 ++ [x]).length := by simp
          rw [this, show w0 ++ x :: rest = (w0 ++ [x]) ++ rest by simp, List.take_left]
        · apply List.map_congr_left
          intro i _
          simp only [Function.comp, List.length_append, List.length_cons, List.length_nil, List.append_assoc,
            List.cons_append, List.nil_append]
          rw [show w0.length + 1 + (i + 1) + 1 = (w0.length + (0 + 1) + i + 1) + 1 by omega, List.take_succ_cons,
            show w0.length + (0 + 1) + i + 1 + 1 - p = (w0.length + (0 + 1) + i + 1 - p) + 1 by omega,
            List.drop_succ_cons]

/-- the values delivered by a `pickStep g` pipeline: `g` of every full window `xs[k .. k+p−1]` -/
theorem pick_values (g : List Int → Int) (p : Nat) (hp : 1 ≤ p) (xs : List Int) :
    (winOuts (pickStep g p) [0] (List.replicate p 0) xs).drop (p - 1)
      = (List.range (xs.length + 1 - p)).map (fun k => g ((xs.drop k).take p)) := by
  have h := winOuts_pickStep g p hp xs [] (List.replicate p 0) (by simp) (by simp)
  simp only [List.length_nil, Int.natCast_zero] at h
  rw [h, wins_eq p hp xs [] (by simp)]
  apply List.ext_getElem
  · simp; omega
  · intro i h1 h2
    simp only [List.length_drop, List.length_map, List.length_range] at h1
    simp only [List.getElem_drop, List.getElem_map, List.getElem_range, List.nil_append, List.length_nil,
      Nat.zero_add]
    rw [show p - 1 + i + 1 - p = i by omega, List.drop_take, show p - 1 + i + 1 - i = p by omega]

/-- folding a choice function `m` (`max`, `min`) that returns one of its arguments and is `R`-above both: the result is
    the start value or a member, and `R`-above the start value and every member -/
theorem foldl_pick_spec (m : Int → Int → Int) (R : Int → Int → Prop) (hR : ∀ a b c, R a b → R b c → R a c)
    (hm : ∀ a b, (m a b = a ∨ m a b = b) ∧ R a (m a b) ∧ R b (m a b)) (hrefl : ∀ a, R a a) (t : List Int) (h : Int) :
    (t.foldl m h = h ∨ t.foldl m h ∈ t) ∧ R h (t.foldl m h) ∧ ∀ x ∈ t, R x (t.foldl m h) := by
  induction t generalizing h with
  | nil => simp [hrefl]
  | cons a t ih =>
    obtain ⟨h1, h2, h3⟩ := ih (m h a)
    obtain ⟨hc, ha, hb⟩ := hm h a
    simp only [List.foldl_cons, List.mem_cons, forall_eq_or_imp]
    refine ⟨?_, hR _ _ _ ha h2, hR _ _ _ hb h2, h3⟩
    rcases h1 with h1 | h1
    · rw [h1]; exact hc.imp id Or.inl
    · exact .inr (.inr h1)

/-- `lmax` of a non-empty list is its maximum -/
theorem lmax_spec (l : List Int) (hl : l ≠ []) : lmax l ∈ l ∧ ∀ x ∈ l, x ≤ lmax l := by
  cases l with
  | nil => exact absurd rfl hl
  | cons h t =>
    obtain ⟨h1, h2, h3⟩ := foldl_pick_spec max (· ≤ ·) (fun _ _ _ => Int.le_trans) (fun a b => by omega)
      Int.le_refl t h
    exact ⟨by simpa [lmax, eq_comm] using h1, by simpa [lmax] using ⟨h2, h3⟩⟩

/-- `lmin` of a non-empty list is its minimum -/
theorem lmin_spec (l : List Int) (hl : l ≠ []) : lmin l ∈ l ∧ ∀ x ∈ l, lmin l ≤ x := by
  cases l with
  | nil => exact absurd rfl hl
  | cons h t =>
    obtain ⟨h1, h2, h3⟩ := foldl_pick_spec min (· ≥ ·) (fun _ _ _ h1 h2 => Int.le_trans h2 h1) (fun a b => by omega)
      Int.le_refl t h
    exact ⟨by simpa [lmin, eq_comm] using h1, by simpa [lmin] using ⟨h2, h3⟩⟩
/-- **the values of `trend.MovingMax`**: the k-th delivered value is the maximum (`lmax`, see `lmax_spec`) of
    `xs[k .. k+p−1]`, one value for every full window -/
theorem movingMax_values (p : Nat) (hp : 1 ≤ p) (xs : List Int) :
    (winOuts (maxStep p) [0] (List.replicate p 0) xs).drop (p - 1)
      = (List.range (xs.length + 1 - p)).map (fun k => lmax ((xs.drop k).take p)) :=
  pick_values lmax p hp xs

/-- **the values of `trend.MovingMin`** -/
theorem movingMin_values (p : Nat) (hp : 1 ≤ p) (xs : List Int) :
    (winOuts (minStep p) [0] (List.replicate p 0) xs).drop (p - 1)
      = (List.range (xs.length + 1 - p)).map (fun k => lmin ((xs.drop k).take p)) :=
  pick_values lmin p hp xs

example : NetM.winRun (maxStep 3) [0] 0 3 3 [1, 5, 3, 4, 2, 6] = (true, true, [5, 5, 4, 6]) := by decide
example : NetM.winRun (minStep 3) [0] 1 4 3 [1, 5, 3, 4, 2, 6] = (true, true, [1, 3, 2, 2]) := by decide
example : NetM.winRun sumStepW [0] 0 3 3 [1, 2, 3, 4, 5, 6] = (true, true, [6, 9, 12, 15]) := by decide
/-- with a Shift buffer two short of the period the same pipeline deadlocks on unbuffered channels -/
example : NetM.winRun (maxStep 3) [0] 0 1 3 [1, 5, 3, 4, 2, 6] = (true, false, []) := by decide

end C03
