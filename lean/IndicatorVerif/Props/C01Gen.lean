import IndicatorVerif.Proofs.AgreeTac
/-
  C01 — indicator values equal their documented formulas: the indicators whose proof only follows the formula.

  `X_formula`: for every admissible configuration and every input family `x` over ℝ, every output of
  the model of X `Agree`s with the documented formula of X (Spec/Indicators.lean): it is aligned at
  the formula's start position and carries exactly the formula's value at every later position.
  With C02 (`Good`) and `Sig.Agree.evalL_eq` this is: the Go-side list semantics on inputs of any
  length n equals the list of formula values for positions start … n−1.
-/
namespace C01
open Sig Ind

macro "formula_tac " N:term : tactic => `(tactic|
  (refine ⟨_, _, rfl, rfl, ?_⟩
   simp only [ind_body]
   repeat' (first | apply List.Forall₂.cons | apply List.Forall₂.nil)
   all_goals (agree_tac $N)))

theorem bop_formula (N : Nat) (fs : List ℝ) (x : Nat → Nat → ℝ) :
    ∃ e ps, lookup "Bop" [] fs = some e ∧ Spec.formulas N "Bop" [] fs x = some ps ∧
      List.Forall₂ (Agree x) e.outs ps := by
  formula_tac N

theorem cci_formula (N : Nat) (p : Nat) (fs : List ℝ) (h0 : 1 ≤ p) (x : Nat → Nat → ℝ) :
    ∃ e ps, lookup "Cci" [p] fs = some e ∧ Spec.formulas N "Cci" [p] fs x = some ps ∧
      List.Forall₂ (Agree x) e.outs ps := by
  formula_tac N

theorem ema_formula (N : Nat) (p : Nat) (fs : List ℝ) (h0 : 1 ≤ p) (x : Nat → Nat → ℝ) :
    ∃ e ps, lookup "Ema" [p] fs = some e ∧ Spec.formulas N "Ema" [p] fs x = some ps ∧
      List.Forall₂ (Agree x) e.outs ps := by
  formula_tac N

theorem massIndex_formula (N : Nat) (p1 p2 p3 : Nat) (fs : List ℝ) (h0 : 1 ≤ p1) (h1 : 1 ≤ p2) (h2 : 1 ≤ p3) (x : Nat → Nat → ℝ) :
    ∃ e ps, lookup "MassIndex" [p1, p2, p3] fs = some e ∧ Spec.formulas N "MassIndex" [p1, p2, p3] fs x = some ps ∧
      List.Forall₂ (Agree x) e.outs ps := by
  formula_tac N

theorem mlr_formula (N : Nat) (p : Nat) (fs : List ℝ) (h0 : 1 ≤ p) (x : Nat → Nat → ℝ) :
    ∃ e ps, lookup "Mlr" [p] fs = some e ∧ Spec.formulas N "Mlr" [p] fs x = some ps ∧
      List.Forall₂ (Agree x) e.outs ps := by
  formula_tac N

theorem mls_formula (N : Nat) (p : Nat) (fs : List ℝ) (h0 : 1 ≤ p) (x : Nat → Nat → ℝ) :
    ∃ e ps, lookup "Mls" [p] fs = some e ∧ Spec.formulas N "Mls" [p] fs x = some ps ∧
      List.Forall₂ (Agree x) e.outs ps := by
  formula_tac N

theorem movingSum_formula (N : Nat) (p : Nat) (fs : List ℝ) (h0 : 1 ≤ p) (x : Nat → Nat → ℝ) :
    ∃ e ps, lookup "MovingSum" [p] fs = some e ∧ Spec.formulas N "MovingSum" [p] fs x = some ps ∧
      List.Forall₂ (Agree x) e.outs ps := by
  formula_tac N

theorem rma_formula (N : Nat) (p : Nat) (fs : List ℝ) (h0 : 1 ≤ p) (x : Nat → Nat → ℝ) :
    ∃ e ps, lookup "Rma" [p] fs = some e ∧ Spec.formulas N "Rma" [p] fs x = some ps ∧
      List.Forall₂ (Agree x) e.outs ps := by
  formula_tac N

theorem sma_formula (N : Nat) (p : Nat) (fs : List ℝ) (h0 : 1 ≤ p) (x : Nat → Nat → ℝ) :
    ∃ e ps, lookup "Sma" [p] fs = some e ∧ Spec.formulas N "Sma" [p] fs x = some ps ∧
      List.Forall₂ (Agree x) e.outs ps := by
  formula_tac N

theorem smma_formula (N : Nat) (p : Nat) (fs : List ℝ) (h0 : 1 ≤ p) (x : Nat → Nat → ℝ) :
    ∃ e ps, lookup "Smma" [p] fs = some e ∧ Spec.formulas N "Smma" [p] fs x = some ps ∧
      List.Forall₂ (Agree x) e.outs ps := by
  formula_tac N

theorem tema_formula (N : Nat) (p1 p2 p3 : Nat) (fs : List ℝ) (h0 : 1 ≤ p1) (h1 : 1 ≤ p2) (h2 : 1 ≤ p3) (x : Nat → Nat → ℝ) :
    ∃ e ps, lookup "Tema" [p1, p2, p3] fs = some e ∧ Spec.formulas N "Tema" [p1, p2, p3] fs x = some ps ∧
      List.Forall₂ (Agree x) e.outs ps := by
  formula_tac N

theorem trix_formula (N : Nat) (p : Nat) (fs : List ℝ) (h0 : 1 ≤ p) (x : Nat → Nat → ℝ) :
    ∃ e ps, lookup "Trix" [p] fs = some e ∧ Spec.formulas N "Trix" [p] fs x = some ps ∧
      List.Forall₂ (Agree x) e.outs ps := by
  formula_tac N

theorem typicalPrice_formula (N : Nat) (fs : List ℝ) (x : Nat → Nat → ℝ) :
    ∃ e ps, lookup "TypicalPrice" [] fs = some e ∧ Spec.formulas N "TypicalPrice" [] fs x = some ps ∧
      List.Forall₂ (Agree x) e.outs ps := by
  formula_tac N

theorem vwma_formula (N : Nat) (p : Nat) (fs : List ℝ) (h0 : 1 ≤ p) (x : Nat → Nat → ℝ) :
    ∃ e ps, lookup "Vwma" [p] fs = some e ∧ Spec.formulas N "Vwma" [p] fs x = some ps ∧
      List.Forall₂ (Agree x) e.outs ps := by
  formula_tac N

theorem weightedClose_formula (N : Nat) (fs : List ℝ) (x : Nat → Nat → ℝ) :
    ∃ e ps, lookup "WeightedClose" [] fs = some e ∧ Spec.formulas N "WeightedClose" [] fs x = some ps ∧
      List.Forall₂ (Agree x) e.outs ps := by
  formula_tac N

theorem awesomeOscillator_formula (N : Nat) (s l : Nat) (fs : List ℝ) (h0 : 1 ≤ s) (h1 : s ≤ l) (x : Nat → Nat → ℝ) :
    ∃ e ps, lookup "AwesomeOscillator" [s, l] fs = some e ∧ Spec.formulas N "AwesomeOscillator" [s, l] fs x = some ps ∧
      List.Forall₂ (Agree x) e.outs ps := by
  formula_tac N

theorem chaikinOscillator_formula (N : Nat) (s l : Nat) (fs : List ℝ) (h0 : 1 ≤ s) (h1 : s ≤ l) (x : Nat → Nat → ℝ) :
    ∃ e ps, lookup "ChaikinOscillator" [s, l] fs = some e ∧ Spec.formulas N "ChaikinOscillator" [s, l] fs x = some ps ∧
      List.Forall₂ (Agree x) e.outs ps := by
  formula_tac N

theorem qstick_formula (N : Nat) (p : Nat) (fs : List ℝ) (h0 : 1 ≤ p) (x : Nat → Nat → ℝ) :
    ∃ e ps, lookup "Qstick" [p] fs = some e ∧ Spec.formulas N "Qstick" [p] fs x = some ps ∧
      List.Forall₂ (Agree x) e.outs ps := by
  formula_tac N

theorem accelerationBands_formula (N : Nat) (p : Nat) (fs : List ℝ) (h0 : 1 ≤ p) (x : Nat → Nat → ℝ) :
    ∃ e ps, lookup "AccelerationBands" [p] fs = some e ∧ Spec.formulas N "AccelerationBands" [p] fs x = some ps ∧
      List.Forall₂ (Agree x) e.outs ps := by
  formula_tac N

theorem ad_formula (N : Nat) (fs : List ℝ) (x : Nat → Nat → ℝ) :
    ∃ e ps, lookup "Ad" [] fs = some e ∧ Spec.formulas N "Ad" [] fs x = some ps ∧
      List.Forall₂ (Agree x) e.outs ps := by
  formula_tac N

theorem cmf_formula (N : Nat) (p : Nat) (fs : List ℝ) (h0 : 1 ≤ p) (x : Nat → Nat → ℝ) :
    ∃ e ps, lookup "Cmf" [p] fs = some e ∧ Spec.formulas N "Cmf" [p] fs x = some ps ∧
      List.Forall₂ (Agree x) e.outs ps := by
  formula_tac N

theorem mfm_formula (N : Nat) (fs : List ℝ) (x : Nat → Nat → ℝ) :
    ∃ e ps, lookup "Mfm" [] fs = some e ∧ Spec.formulas N "Mfm" [] fs x = some ps ∧
      List.Forall₂ (Agree x) e.outs ps := by
  formula_tac N

theorem mfv_formula (N : Nat) (fs : List ℝ) (x : Nat → Nat → ℝ) :
    ∃ e ps, lookup "Mfv" [] fs = some e ∧ Spec.formulas N "Mfv" [] fs x = some ps ∧
      List.Forall₂ (Agree x) e.outs ps := by
  formula_tac N

theorem vwap_formula (N : Nat) (p : Nat) (fs : List ℝ) (h0 : 1 ≤ p) (x : Nat → Nat → ℝ) :
    ∃ e ps, lookup "Vwap" [p] fs = some e ∧ Spec.formulas N "Vwap" [p] fs x = some ps ∧
      List.Forall₂ (Agree x) e.outs ps := by
  formula_tac N

theorem keltnerChannel_formula (N : Nat) (p : Nat) (fs : List ℝ) (h0 : 1 ≤ p) (x : Nat → Nat → ℝ) :
    ∃ e ps, lookup "KeltnerChannel" [p] fs = some e ∧ Spec.formulas N "KeltnerChannel" [p] fs x = some ps ∧
      List.Forall₂ (Agree x) e.outs ps := by
  formula_tac N

theorem movingMax_formula (N : Nat) (p : Nat) (fs : List ℝ) (h0 : 1 ≤ p) (x : Nat → Nat → ℝ) :
    ∃ e ps, lookup "MovingMax" [p] fs = some e ∧ Spec.formulas N "MovingMax" [p] fs x = some ps ∧
      List.Forall₂ (Agree x) e.outs ps := by
  formula_tac N

theorem movingMin_formula (N : Nat) (p : Nat) (fs : List ℝ) (h0 : 1 ≤ p) (x : Nat → Nat → ℝ) :
    ∃ e ps, lookup "MovingMin" [p] fs = some e ∧ Spec.formulas N "MovingMin" [p] fs x = some ps ∧
      List.Forall₂ (Agree x) e.outs ps := by
  formula_tac N

theorem donchianChannel_formula (N : Nat) (p : Nat) (fs : List ℝ) (h0 : 1 ≤ p) (x : Nat → Nat → ℝ) :
    ∃ e ps, lookup "DonchianChannel" [p] fs = some e ∧ Spec.formulas N "DonchianChannel" [p] fs x = some ps ∧
      List.Forall₂ (Agree x) e.outs ps := by
  formula_tac N

theorem williamsR_formula (N : Nat) (p : Nat) (fs : List ℝ) (h0 : 1 ≤ p) (x : Nat → Nat → ℝ) :
    ∃ e ps, lookup "WilliamsR" [p] fs = some e ∧ Spec.formulas N "WilliamsR" [p] fs x = some ps ∧
      List.Forall₂ (Agree x) e.outs ps := by
  formula_tac N

theorem stochasticOscillator_formula (N : Nat) (mp sp : Nat) (fs : List ℝ) (h0 : 1 ≤ mp) (h1 : 1 ≤ sp) (x : Nat → Nat → ℝ) :
    ∃ e ps, lookup "StochasticOscillator" [mp, sp] fs = some e ∧ Spec.formulas N "StochasticOscillator" [mp, sp] fs x = some ps ∧
      List.Forall₂ (Agree x) e.outs ps := by
  formula_tac N

theorem kdj_formula (N : Nat) (rp kp dp : Nat) (fs : List ℝ) (h0 : 1 ≤ rp) (h1 : 1 ≤ kp) (h2 : 1 ≤ dp) (x : Nat → Nat → ℝ) :
    ∃ e ps, lookup "Kdj" [rp, kp, dp] fs = some e ∧ Spec.formulas N "Kdj" [rp, kp, dp] fs x = some ps ∧
      List.Forall₂ (Agree x) e.outs ps := by
  formula_tac N

theorem chandelierExit_formula (N : Nat) (p : Nat) (fs : List ℝ) (h0 : 1 ≤ p) (x : Nat → Nat → ℝ) :
    ∃ e ps, lookup "ChandelierExit" [p] fs = some e ∧ Spec.formulas N "ChandelierExit" [p] fs x = some ps ∧
      List.Forall₂ (Agree x) e.outs ps := by
  formula_tac N

theorem wma_formula (N : Nat) (p : Nat) (fs : List ℝ) (h0 : 1 ≤ p) (x : Nat → Nat → ℝ) :
    ∃ e ps, lookup "Wma" [p] fs = some e ∧ Spec.formulas N "Wma" [p] fs x = some ps ∧
      List.Forall₂ (Agree x) e.outs ps := by
  formula_tac N

theorem hma_formula (N : Nat) (p : Nat) (fs : List ℝ) (h0 : 1 ≤ p) (x : Nat → Nat → ℝ) :
    ∃ e ps, lookup "Hma" [p] fs = some e ∧ Spec.formulas N "Hma" [p] fs x = some ps ∧
      List.Forall₂ (Agree x) e.outs ps := by
  formula_tac N

theorem movingStd_formula (N : Nat) (p : Nat) (fs : List ℝ) (h0 : 1 ≤ p) (x : Nat → Nat → ℝ) :
    ∃ e ps, lookup "MovingStd" [p] fs = some e ∧ Spec.formulas N "MovingStd" [p] fs x = some ps ∧
      List.Forall₂ (Agree x) e.outs ps := by
  formula_tac N

theorem bollingerBands_formula (N : Nat) (p : Nat) (fs : List ℝ) (h0 : 1 ≤ p) (x : Nat → Nat → ℝ) :
    ∃ e ps, lookup "BollingerBands" [p] fs = some e ∧ Spec.formulas N "BollingerBands" [p] fs x = some ps ∧
      List.Forall₂ (Agree x) e.outs ps := by
  formula_tac N

theorem bollingerBandWidth_formula (N : Nat) (p : Nat) (fs : List ℝ) (h0 : 1 ≤ p) (x : Nat → Nat → ℝ) :
    ∃ e ps, lookup "BollingerBandWidth" [p] fs = some e ∧ Spec.formulas N "BollingerBandWidth" [p] fs x = some ps ∧
      List.Forall₂ (Agree x) e.outs ps := by
  formula_tac N

theorem percentB_formula (N : Nat) (p : Nat) (fs : List ℝ) (h0 : 1 ≤ p) (x : Nat → Nat → ℝ) :
    ∃ e ps, lookup "PercentB" [p] fs = some e ∧ Spec.formulas N "PercentB" [p] fs x = some ps ∧
      List.Forall₂ (Agree x) e.outs ps := by
  formula_tac N

theorem envelope_formula (N : Nat) (k p : Nat) (fs : List ℝ) (h0 : 1 ≤ p) (x : Nat → Nat → ℝ) :
    ∃ e ps, lookup "Envelope" [k, p] fs = some e ∧ Spec.formulas N "Envelope" [k, p] fs x = some ps ∧
      List.Forall₂ (Agree x) e.outs ps := by
  formula_tac N

theorem atr_formula (N : Nat) (k p : Nat) (fs : List ℝ) (h0 : 1 ≤ p) (x : Nat → Nat → ℝ) :
    ∃ e ps, lookup "Atr" [k, p] fs = some e ∧ Spec.formulas N "Atr" [k, p] fs x = some ps ∧
      List.Forall₂ (Agree x) e.outs ps := by
  formula_tac N

theorem trima_formula (N : Nat) (p : Nat) (fs : List ℝ) (h0 : 1 ≤ p) (x : Nat → Nat → ℝ) :
    ∃ e ps, lookup "Trima" [p] fs = some e ∧ Spec.formulas N "Trima" [p] fs x = some ps ∧
      List.Forall₂ (Agree x) e.outs ps := by
  refine ⟨_, _, rfl, rfl, .cons ?_ .nil⟩
  simp only [trima, trimaPeriods, List.getD_cons_zero]
  by_cases hp : p % 2 = 0 <;> simp only [hp, if_true, if_false] <;>
    exact ((Agree.input x 0).sma _ (by omega)).sma _ (by omega)

theorem macd_formula (N : Nat) (p1 p2 p3 : Nat) (fs : List ℝ) (h0 : 1 ≤ p1) (h1 : p1 ≤ p2) (h2 : 1 ≤ p3) (x : Nat → Nat → ℝ) :
    ∃ e ps, lookup "Macd" [p1, p2, p3] fs = some e ∧ Spec.formulas N "Macd" [p1, p2, p3] fs x = some ps ∧
      List.Forall₂ (Agree x) e.outs ps := by
  formula_tac N

theorem ppo_formula (N : Nat) (s l sig : Nat) (fs : List ℝ) (h0 : 1 ≤ s) (h1 : s ≤ l) (h2 : 1 ≤ sig) (x : Nat → Nat → ℝ) :
    ∃ e ps, lookup "Ppo" [s, l, sig] fs = some e ∧ Spec.formulas N "Ppo" [s, l, sig] fs x = some ps ∧
      List.Forall₂ (Agree x) e.outs ps := by
  formula_tac N

theorem pvo_formula (N : Nat) (s l sig : Nat) (fs : List ℝ) (h0 : 1 ≤ s) (h1 : s ≤ l) (h2 : 1 ≤ sig) (x : Nat → Nat → ℝ) :
    ∃ e ps, lookup "Pvo" [s, l, sig] fs = some e ∧ Spec.formulas N "Pvo" [s, l, sig] fs x = some ps ∧
      List.Forall₂ (Agree x) e.outs ps := by
  formula_tac N

theorem po_formula (N : Nat) (p : Nat) (fs : List ℝ) (h0 : 1 ≤ p) (x : Nat → Nat → ℝ) :
    ∃ e ps, lookup "Po" [p] fs = some e ∧ Spec.formulas N "Po" [p] fs x = some ps ∧
      List.Forall₂ (Agree x) e.outs ps := by
  formula_tac N

/-- KeltnerChannelG for every kind code of its ATR's moving average: the EMA is skipped up to where the ATR starts -/
theorem keltnerChannelG_formula (N : Nat) (k ap ep : Nat) (fs : List ℝ) (h0 : 1 ≤ ep) (h1 : ep ≤ ap) (x : Nat → Nat → ℝ) :
    ∃ e ps, lookup "KeltnerChannelG" [k, ap, ep] fs = some e ∧ Spec.formulas N "KeltnerChannelG" [k, ap, ep] fs x = some ps ∧
      List.Forall₂ (Agree x) e.outs ps := by
  have ha := (Agree.atr N k ap (by omega) x).map (· * two)
  have hm := (Agree.input x 2).ema N ep two h0
  refine ⟨_, _, rfl, rfl, .cons (hm.map2L _ ha ?hs) (.cons (hm.from_ ?hs) (.cons (hm.map2L _ ha ?hs) .nil))⟩
  have := le_maIdle k ap
  simp only [ps_body, ind_body]
  omega

theorem keltnerChannelGWithSma_formula (N : Nat) (ap ep : Nat) (fs : List ℝ) (h0 : 1 ≤ ep) (h1 : ep ≤ ap) (h2 : 1 ≤ ap) (x : Nat → Nat → ℝ) :
    ∃ e ps, lookup "KeltnerChannelG" [0, ap, ep] fs = some e ∧ Spec.formulas N "KeltnerChannelG" [0, ap, ep] fs x = some ps ∧
      List.Forall₂ (Agree x) e.outs ps :=
  keltnerChannelG_formula N 0 ap ep fs h0 h1 x

theorem keltnerChannelGWithEma_formula (N : Nat) (ap ep : Nat) (fs : List ℝ) (h0 : 1 ≤ ep) (h1 : ep ≤ ap) (h2 : 1 ≤ ap) (x : Nat → Nat → ℝ) :
    ∃ e ps, lookup "KeltnerChannelG" [1, ap, ep] fs = some e ∧ Spec.formulas N "KeltnerChannelG" [1, ap, ep] fs x = some ps ∧
      List.Forall₂ (Agree x) e.outs ps :=
  keltnerChannelG_formula N 1 ap ep fs h0 h1 x

theorem keltnerChannelGWithSmma_formula (N : Nat) (ap ep : Nat) (fs : List ℝ) (h0 : 1 ≤ ep) (h1 : ep ≤ ap) (h2 : 1 ≤ ap) (x : Nat → Nat → ℝ) :
    ∃ e ps, lookup "KeltnerChannelG" [3, ap, ep] fs = some e ∧ Spec.formulas N "KeltnerChannelG" [3, ap, ep] fs x = some ps ∧
      List.Forall₂ (Agree x) e.outs ps :=
  keltnerChannelG_formula N 3 ap ep fs h0 h1 x

theorem keltnerChannelGWithWma_formula (N : Nat) (ap ep : Nat) (fs : List ℝ) (h0 : 1 ≤ ep) (h1 : ep ≤ ap) (h2 : 1 ≤ ap) (x : Nat → Nat → ℝ) :
    ∃ e ps, lookup "KeltnerChannelG" [4, ap, ep] fs = some e ∧ Spec.formulas N "KeltnerChannelG" [4, ap, ep] fs x = some ps ∧
      List.Forall₂ (Agree x) e.outs ps :=
  keltnerChannelG_formula N 4 ap ep fs h0 h1 x

theorem keltnerChannelGWithHma_formula (N : Nat) (ap ep : Nat) (fs : List ℝ) (h0 : 1 ≤ ep) (h1 : ep ≤ ap) (h2 : 1 ≤ ap) (x : Nat → Nat → ℝ) :
    ∃ e ps, lookup "KeltnerChannelG" [5, ap, ep] fs = some e ∧ Spec.formulas N "KeltnerChannelG" [5, ap, ep] fs x = some ps ∧
      List.Forall₂ (Agree x) e.outs ps :=
  keltnerChannelG_formula N 5 ap ep fs h0 h1 x

end C01
