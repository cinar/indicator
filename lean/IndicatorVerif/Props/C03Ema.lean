import IndicatorVerif.Props.C03Change
import IndicatorVerif.Model.Sig
/-
  C03 — the hand-over of the input channel in `trend.Ema` / `Rma` / `Smma` (`NetM.recurNet`):

      before, ok := <-sma.Compute(helper.Head(c, period)); …; result <- before; for n := range c { … }

  `c` is read by `Head`'s goroutine and, later, by the indicator's own goroutine.  Proved here, for every input, every
  period ≥ 1, every seed function and update function (EMA, RMA, SMMA are instances), every channel capacity and every
  schedule:
    * `recur_safe`: in no reachable state are two processes about to use the same end of a channel — in particular the
      indicator's goroutine never reads `c` while `Head` may still read it (inductive invariant `J`: tokens between
      `Head` and the seed are counted; the seed can only appear after `Head` has taken its last value);
    * `recur_terminates_cleanly`: every execution is finite, and any execution that can go no further has every process
      finished, every channel closed and empty, and has delivered exactly `Sig.recurL p seed upd xs` — the list semantics
      the value theorems (C01, C02, C04) use for these indicators.
  Modelled, not verified: the Sma pipeline between `Head` and the seed is one sequential process (`seedBox`); its own
  network is `msumNet` (C03MovingSum).
-/
namespace C03
open Net NetM

variable (p : Nat) (seed : List Int → Int) (u : Int → Int → Int)

abbrev N0 := recurNet (fun _ => 0) p seed u

/-- filling: `rest` to be produced, `Head` still takes `r` values, the seed pipeline holds the window `w` -/
def E1 (rest : List Int) (r : Nat) (w : List Int) : St Loc Int :=
  ⟨P6 (⟨0, rest⟩, none) (⟨0, [(r : Int)]⟩, none) (⟨0, w⟩, none) (⟨0, []⟩, none) (⟨0, []⟩, none) (⟨0, []⟩, none),
   C6 ([], false) ([], false) ([], false) ([], false) ([], false) ([], false)⟩

/-- folding: `Head` and the seed pipeline have finished, the indicator's goroutine holds `b` and reads `c` itself -/
def E2 (rest : List Int) (b : Int) (out : List Int) : St Loc Int :=
  ⟨P6 (⟨0, rest⟩, none) (⟨3, []⟩, none) (⟨3, []⟩, none) (⟨2, [b]⟩, none) (⟨0, out⟩, none) (⟨0, []⟩, none),
   C6 ([], false) ([], true) ([], true) ([], false) ([], false) ([], false)⟩

/-- everything finished -/
def FE (out : List Int) : St Loc Int :=
  ⟨P6 (⟨1, []⟩, none) (⟨3, []⟩, none) (⟨3, []⟩, none) (⟨5, []⟩, none) (⟨1, out⟩, none) (⟨0, []⟩, none),
   C6 ([], true) ([], true) ([], true) ([], true) ([], false) ([], false)⟩

theorem recurInit_eq (xs : List Int) : recurInit xs p = E1 xs p [] := by
  simp only [recurInit, E1]
  congr 1
  · funext q
    match q with
    | 0 | 1 | 2 | 3 | 4 | 5 => rfl
    | n + 6 => rfl
  · funext c
    match c with
    | 0 | 1 | 2 | 3 | 4 | 5 => rfl
    | n + 6 => rfl

/-- a value of the first window that is not the last one: producer → Head → seed pipeline -/
theorem roundF (x : Int) (rest : List Int) (r : Nat) (w : List Int) (hw : w.length + 1 < p) :
    Reach (N0 p seed u) (E1 (x :: rest) (r + 1) w) (E1 rest r (w ++ [x])) := by
  refine (handover 0 1 0 (by decide) rfl rfl rfl (headM_take 0 1 r) rfl rfl).trans ?_
  refine (handover 1 2 1 (by decide) rfl rfl rfl rfl rfl rfl).trans (.of_eq ?_)
  simp [E1, P6_eq, C6_eq, hw]

/-- the value that completes the window: Head closes, the seed is computed, handed to the indicator's goroutine and
    delivered; the seed pipeline shuts down -/
theorem roundS (x : Int) (rest : List Int) (w : List Int) (hw : w.length + 1 = p) :
    Reach (N0 p seed u) (E1 (x :: rest) 1 w) (E2 rest (seed (w ++ [x])) [seed (w ++ [x])]) := by
  have h1 : ¬ (w.length + 1 < p) := by omega
  have h3 : w.length + 1 - p = 0 := by omega
  refine (handover 0 1 0 (by decide) rfl rfl rfl rfl rfl rfl).trans ?_
  refine (handover 1 2 1 (by decide) rfl rfl rfl rfl rfl rfl).trans ?_
  refine (close_chan 1 1 rfl rfl rfl).trans ?_
  simp only [E1, P6_eq, C6_eq, h1, h3, if_false, List.drop_zero, List.headD_cons]
  refine (handover 2 3 2 (by decide) rfl rfl rfl rfl rfl rfl).trans ?_
  refine (recv_closed 2 1 rfl rfl rfl).trans ?_
  refine (close_chan 2 2 rfl rfl rfl).trans ?_
  refine (handover 3 4 3 (by decide) rfl rfl rfl rfl rfl rfl).trans (.of_eq ?_)
  simp [E2, P6_eq, C6_eq]

/-- a value after the window: producer → the indicator's goroutine → reader -/
theorem roundG (x b : Int) (rest out : List Int) :
    Reach (N0 p seed u) (E2 (x :: rest) b out) (E2 rest (u b x) (out ++ [u b x])) := by
  refine (handover 0 3 0 (by decide) rfl rfl rfl rfl rfl rfl).trans ?_
  refine (handover 3 4 3 (by decide) rfl rfl rfl rfl rfl rfl).trans (.of_eq ?_)
  simp [E2, P6_eq, C6_eq]

/-- the input ends after the window -/
theorem roundEnd2 (b : Int) (out : List Int) : Reach (N0 p seed u) (E2 [] b out) (FE out) := by
  refine (close_recv 0 3 0 (by decide) rfl rfl rfl rfl rfl).trans ?_
  refine (close_recv 3 4 3 (by decide) rfl rfl rfl rfl rfl).trans (.of_eq ?_)
  simp [E2, FE, P6_eq, C6_eq]

/-- the input ends inside the first window: no seed, nothing is delivered, everything closes -/
theorem roundEnd1 (r : Nat) (w : List Int) : Reach (N0 p seed u) (E1 [] (r + 1) w) (FE []) := by
  refine (close_recv 0 1 0 (by decide) rfl rfl rfl (headM_take 0 1 r) rfl).trans ?_
  refine (close_recv 1 2 1 (by decide) rfl rfl rfl rfl rfl).trans ?_
  refine (close_recv 2 3 2 (by decide) rfl rfl rfl rfl rfl).trans ?_
  refine (close_recv 3 4 3 (by decide) rfl rfl rfl rfl rfl).trans (.of_eq ?_)
  simp [E1, FE, P6_eq, C6_eq]

theorem fold_canonical (xs : List Int) (b : Int) (out : List Int) :
    Reach (N0 p seed u) (E2 xs b out) (FE (out ++ Sig.recurTail u b xs)) := by
  induction xs generalizing b out with
  | nil => simpa [Sig.recurTail] using roundEnd2 p seed u b out
  | cons x rest ih => simpa [Sig.recurTail] using (roundG p seed u x b rest out).trans (ih (u b x) (out ++ [u b x]))

theorem fill_canonical (xs : List Int) (r : Nat) (w : List Int) (hinv : w.length + (r + 1) = p) :
    Reach (N0 p seed u) (E1 xs (r + 1) w)
      (FE (if xs.length < r + 1 then [] else
            seed (w ++ xs.take (r + 1)) :: Sig.recurTail u (seed (w ++ xs.take (r + 1))) (xs.drop (r + 1)))) := by
  induction xs generalizing r w with
  | nil => simpa using roundEnd1 p seed u r w
  | cons x rest ih =>
    cases r with
    | zero =>
      simpa using (roundS p seed u x rest w (by omega)).trans
        (fold_canonical p seed u rest (seed (w ++ [x])) [seed (w ++ [x])])
    | succ r =>
      have := (roundF p seed u x rest (r + 1) w (by omega)).trans (ih r (w ++ [x]) (by simp; omega))
      simpa [List.take_succ_cons] using this

/-- the canonical run delivers the list semantics of the `recur` term -/
theorem recur_canonical (hp : 1 ≤ p) (xs : List Int) :
    Reach (N0 p seed u) (recurInit xs p) (FE (Sig.recurL p seed u xs)) := by
  rw [recurInit_eq]
  obtain ⟨r, rfl⟩ : ∃ r, p = r + 1 := ⟨p - 1, by omega⟩
  simpa [Sig.recurL] using fill_canonical (r + 1) seed u xs r [] (by simp)

end C03

/-! ### the hand-over is safe: no reachable state has two processes at the same end of a channel -/
namespace C03
open Net NetM

/-! ### what a machine is doing, read off its action -/
section Machines
variable {p : Nat} {seed : List Int → Int} {u : Int → Int → Int} {inp out sc d : Nat} {l k' : Loc}
  {k : Option Int → Loc} {v : Int}

theorem headM_recv (h : headM inp out l = .recv d k) :
    d = inp ∧ l.pc = 0 ∧ ¬ l.reg.headD 0 ≤ 0 ∧ k none = ⟨2, []⟩ ∧ ∀ x, k (some x) = ⟨1, [l.reg.headD 0 - 1, x]⟩ := by
  unfold headM at h
  split at h
  · split at h <;> cases h
    exact ⟨rfl, ‹_›, ‹_›, rfl, fun _ => rfl⟩
  all_goals cases h

theorem headM_send (h : headM inp out l = .send d v k') : d = out ∧ l.pc = 1 ∧ k' = ⟨0, [l.reg.headD 0]⟩ := by
  unfold headM at h
  split at h
  · split at h <;> cases h
  · cases h; exact ⟨rfl, ‹_›, rfl⟩
  all_goals cases h

theorem headM_close (h : headM inp out l = .close d k') : d = out ∧ k' = ⟨3, []⟩ := by
  unfold headM at h
  split at h
  · split at h <;> cases h
    exact ⟨rfl, rfl⟩
  · cases h
  · cases h; exact ⟨rfl, rfl⟩
  · cases h

theorem seedBox_recv (h : seedBox p seed inp out l = .recv d k) :
    d = inp ∧ l.pc = 0 ∧ k none = ⟨2, []⟩ ∧
    ∀ x, k (some x) = if l.reg.length + 1 < p then ⟨0, l.reg ++ [x]⟩ else ⟨1, (l.reg ++ [x]).drop (l.reg.length + 1 - p)⟩ := by
  unfold seedBox at h
  split at h <;> cases h
  exact ⟨rfl, ‹_›, rfl, fun _ => rfl⟩

theorem seedBox_send (h : seedBox p seed inp out l = .send d v k') : d = out ∧ l.pc = 1 ∧ k' = ⟨0, l.reg⟩ := by
  unfold seedBox at h
  split at h <;> cases h
  exact ⟨rfl, ‹_›, rfl⟩

theorem seedBox_close (h : seedBox p seed inp out l = .close d k') : d = out ∧ l.pc = 2 ∧ k' = ⟨3, []⟩ := by
  unfold seedBox at h
  split at h <;> cases h
  exact ⟨rfl, ‹_›, rfl⟩

theorem recurMain_recv (h : recurMain u sc inp out l = .recv d k) : (d = sc ∧ l.pc = 0) ∨ (d = inp ∧ l.pc = 2) := by
  unfold recurMain at h
  split at h <;> cases h
  · exact Or.inl ⟨rfl, ‹_›⟩
  · exact Or.inr ⟨rfl, ‹_›⟩

theorem recurMain_send (h : recurMain u sc inp out l = .send d v k') : d = out ∧ l.pc = 1 := by
  unfold recurMain at h
  split at h <;> cases h
  exact ⟨rfl, ‹_›⟩

theorem recurMain_close (h : recurMain u sc inp out l = .close d k') : d = out ∧ l.pc = 4 := by
  unfold recurMain at h
  split at h <;> cases h
  exact ⟨rfl, ‹_›⟩

end Machines

variable (caps : Nat → Nat) (p : Nat) (seed : List Int → Int) (u : Int → Int → Int)

abbrev NR := recurNet caps p seed u

/-- `Head` will not read the input again -/
def HeadDone (s : St Loc Int) : Prop :=
  2 ≤ (s.procs 1).1.pc ∨ ((s.procs 1).1.pc = 0 ∧ (s.procs 1).1.reg.headD 0 ≤ 0)

/-- the inductive invariant: hand-over waits only on a process's own output; the indicator's goroutine has left its
    first receive, or a seed (or the close of the seed channel) is on its way, only if `Head` is done; `Head`'s output
    is closed only by `Head`; and the values `Head` may still take + holds + has queued + the window never exceed `p` -/
structure J (s : St Loc Int) : Prop where
  wf : ∀ q c, (s.procs q).2 = some c → c = q ∧ q ≤ 3
  main : (s.procs 3).1.pc ≠ 0 → HeadDone s
  seed : ((s.chans 2).1 ≠ [] ∨ (s.chans 2).2 = true ∨ (s.procs 2).1.pc ≠ 0) → HeadDone s
  closed : (s.chans 1).2 = true → 3 ≤ (s.procs 1).1.pc
  count : (s.procs 1).1.pc ≤ 1 → 0 ≤ (s.procs 1).1.reg.headD 0 ∧
    (s.procs 1).1.reg.headD 0 + ((s.procs 1).1.pc : Int) + ((s.chans 1).1.length : Int) + ((s.procs 2).1.reg.length : Int) ≤ (p : Int)

theorem J_init (xs : List Int) : J p (recurInit xs p) := by
  constructor
  · intro q c hq
    simp only [recurInit] at hq
    split at hq <;> simp at hq
  all_goals simp [recurInit, HeadDone]

/-! ### preservation of `J` -/

/-- the hand-over flags stay well-formed when one process gets a flag that is none, or its own index (at most 3) -/
theorem wf_upd {s : St Loc Int} (hwf : ∀ q c, (s.procs q).2 = some c → c = q ∧ q ≤ 3) (q0 : Nat) (l' : Loc)
    (w' : Option Nat) (hw : ∀ c, w' = some c → c = q0 ∧ q0 ≤ 3) :
    ∀ q c, (upd s.procs q0 (l', w') q).2 = some c → c = q ∧ q ≤ 3 := by
  intro q c hq
  by_cases e : q = q0
  · subst e; rw [upd_same] at hq; exact hw c hq
  · rw [upd_other _ _ _ _ e] at hq; exact hwf q c hq

theorem flag_ok (cap d : Nat) (hd : d ≤ 3) : ∀ c, (if cap = 0 then some d else none) = some c → c = d ∧ d ≤ 3 := by
  intro c hc; split at hc <;> cases hc; exact ⟨rfl, hd⟩

/-- a step that does not touch `Head`, does not close `Head`'s output and creates no token; if after it the indicator's
    goroutine is past its first receive or a seed is on its way, `Head` was done -/
theorem J_keep {s a : St Loc Int} (h : J p s) (hwf : ∀ q c, (a.procs q).2 = some c → c = q ∧ q ≤ 3)
    (e1 : (a.procs 1).1 = (s.procs 1).1) (c1 : (a.chans 1).2 = (s.chans 1).2)
    (n : (a.chans 1).1.length + (a.procs 2).1.reg.length ≤ (s.chans 1).1.length + (s.procs 2).1.reg.length)
    (hd : (a.procs 3).1.pc ≠ 0 ∨ (a.chans 2).1 ≠ [] ∨ (a.chans 2).2 = true ∨ (a.procs 2).1.pc ≠ 0 → HeadDone s) :
    J p a := by
  have hd' : HeadDone s → HeadDone a := fun x => by unfold HeadDone at x ⊢; rw [e1]; exact x
  refine ⟨hwf, fun x => hd' (hd (Or.inl x)), fun x => hd' (hd (Or.inr x)), ?_, ?_⟩
  · rw [c1, e1]; exact h.closed
  · rw [e1]; intro x; have := h.count x; omega

/-- the end of a hand-over wait changes nothing `J` looks at -/
theorem J_sync {s : St Loc Int} (h : J p s) (q d : Nat) (cl : Bool) (hc : s.chans d = ([], cl)) :
    J p ⟨upd s.procs q ((s.procs q).1, none), upd s.chans d ([], cl)⟩ := by
  have ep : ∀ j, (upd s.procs q ((s.procs q).1, none) j).1 = (s.procs j).1 := by
    intro j; unfold upd; split
    · subst_vars; rfl
    · rfl
  rw [upd_id _ _ _ hc]
  exact J_keep p h (wf_upd h.wf q _ none nofun) (ep 1) rfl (by simp only [ep]; exact Nat.le_refl _)
    (fun x => by simp only [ep] at x; exact x.elim h.main h.seed)

/-- `Head` is done once the window is full: the count leaves no token for it -/
theorem done_of_full {s : St Loc Int} (h : J p s) (x : Int) (rest : List Int) (cl : Bool)
    (hc : s.chans 1 = (x :: rest, cl)) (hfull : ¬ (s.procs 2).1.reg.length + 1 < p) : HeadDone s := by
  have := h.count
  rw [hc] at this
  unfold HeadDone
  by_cases hp : (s.procs 1).1.pc ≤ 1
  · have := this hp; simp only [List.length_cons] at this; omega
  · omega

/-- `Head` is done once its output is closed -/
theorem done_of_closed {s : St Loc Int} (h : J p s) (q : List Int) (hc : s.chans 1 = (q, true)) : HeadDone s :=
  Or.inl (by have := h.closed (by rw [hc]); omega)

/-- the seed pipeline (`seedBox p seed 1 2`) moves -/
theorem J_step2 (s a : St Loc Int) (h : J p s) (hs : step (NR caps p seed u) 2 s = some a) : J p a := by
  cases step_fired _ _ _ _ hs with
  | sync d cl hf hc => exact J_sync p h 2 d cl hc
  | recvSome d k v rest cl hf ha hc =>
    obtain ⟨rfl, hpc, -, hk⟩ := seedBox_recv ha
    rw [hk]
    split
    · exact J_keep p h (wf_upd h.wf 2 _ none nofun) rfl (by rw [hc]; rfl)
        (by simp only [hc, upd_same, List.length_append, List.length_cons, List.length_nil]; omega)
        (fun x => x.elim h.main fun y => h.seed (y.imp_right (.imp_right (absurd rfl))))
    · rename_i hfull
      exact J_keep p h (wf_upd h.wf 2 _ none nofun) rfl (by rw [hc]; rfl)
        (by simp only [hc, upd_same, List.length_drop, List.length_append, List.length_cons, List.length_nil]; omega)
        (fun _ => done_of_full p h v rest cl hc hfull)
  | recvNone d k hf ha hc =>
    obtain ⟨rfl, -, hk, -⟩ := seedBox_recv ha
    rw [hk]
    exact J_keep p h (wf_upd h.wf 2 _ none nofun) rfl (by rw [hc]; rfl) (Nat.zero_le _)
      (fun _ => done_of_closed p h [] hc)
  | send d v k q hf ha hc hl =>
    obtain ⟨rfl, hpc, rfl⟩ := seedBox_send ha
    exact J_keep p h (wf_upd h.wf 2 _ _ (flag_ok _ 2 (by decide))) rfl rfl (Nat.le_refl _)
      (fun _ => h.seed (.inr (.inr (by omega))))
  | close d k q hf ha hc =>
    obtain ⟨rfl, hpc, rfl⟩ := seedBox_close ha
    exact J_keep p h (wf_upd h.wf 2 _ none nofun) rfl rfl (Nat.add_le_add_left (Nat.zero_le _) _)
      (fun _ => h.seed (.inr (.inr (by omega))))

/-- a step of `Head`: nothing else `J` looks at changes, so what is left to show is that done stays done, that
    `Head`'s output is closed only by `Head`'s close, and the count -/
theorem J_head {s a : St Loc Int} (h : J p s) (hwf : ∀ q c, (a.procs q).2 = some c → c = q ∧ q ≤ 3)
    (e2 : (a.procs 2).1 = (s.procs 2).1) (e3 : (a.procs 3).1.pc = (s.procs 3).1.pc) (c2 : a.chans 2 = s.chans 2)
    (hd : HeadDone s → HeadDone a) (hcl : (a.chans 1).2 = true → 3 ≤ (a.procs 1).1.pc)
    (hcount : (a.procs 1).1.pc ≤ 1 → 0 ≤ (a.procs 1).1.reg.headD 0 ∧
      (a.procs 1).1.reg.headD 0 + ((a.procs 1).1.pc : Int) + ((a.chans 1).1.length : Int) +
        ((s.procs 2).1.reg.length : Int) ≤ (p : Int)) : J p a :=
  ⟨hwf, fun x => hd (h.main (e3 ▸ x)), fun x => hd (h.seed (by rw [c2, e2] at x; exact x)), hcl,
    by rw [e2]; exact hcount⟩

/-- `Head` (`headM 0 1`) moves -/
theorem J_step1 (s a : St Loc Int) (h : J p s) (hs : step (NR caps p seed u) 1 s = some a) : J p a := by
  cases step_fired _ _ _ _ hs with
  | sync d cl hf hc => exact J_sync p h 1 d cl hc
  | recvSome d k v rest cl hf ha hc =>
    obtain ⟨rfl, hpc, hr, -, hk⟩ := headM_recv ha
    rw [hk]
    refine J_head p h (wf_upd h.wf 1 _ none nofun) rfl rfl rfl (fun x => ?_) (fun x => ?_) (fun _ => ?_)
    · unfold HeadDone at x; omega
    · have := h.closed x; omega
    · have := h.count (by omega)
      simp only [upd_same, upd_other _ _ _ _ (show 1 ≠ 0 by decide), List.headD_cons]
      omega
  | recvNone d k hf ha hc =>
    obtain ⟨rfl, hpc, hr, hk, -⟩ := headM_recv ha
    rw [hk]
    exact J_head p h (wf_upd h.wf 1 _ none nofun) rfl rfl rfl (fun _ => Or.inl (Nat.le_refl 2))
      (fun x => by have := h.closed x; omega) (fun x => absurd x (show ¬ 2 ≤ 1 by decide))
  | send d v k q hf ha hc hl =>
    obtain ⟨rfl, hpc, rfl⟩ := headM_send ha
    refine J_head p h (wf_upd h.wf 1 _ _ (flag_ok _ 1 (by decide))) rfl rfl rfl (fun x => ?_)
      (fun x => absurd x Bool.false_ne_true) (fun _ => ?_)
    · unfold HeadDone at x; omega
    · have := h.count (by omega)
      simp only [hc, upd_same, List.headD_cons, List.length_append, List.length_cons, List.length_nil] at this ⊢
      omega
  | close d k q hf ha hc =>
    obtain ⟨rfl, rfl⟩ := headM_close ha
    exact J_head p h (wf_upd h.wf 1 _ none nofun) rfl rfl rfl (fun _ => Or.inl (show 2 ≤ 3 by decide))
      (fun _ => Nat.le_refl 3) (fun x => absurd x (show ¬ 3 ≤ 1 by decide))

/-- the producer (`producer 0`) moves: nothing `J` looks at changes -/
theorem J_step0 (s a : St Loc Int) (h : J p s) (hs : step (NR caps p seed u) 0 s = some a) : J p a := by
  cases step_fired _ _ _ _ hs with
  | sync d cl hf hc => exact J_sync p h 0 d cl hc
  | recvSome d k v rest cl hf ha hc => exact nomatch (producer_ports _).recv ha
  | recvNone d k hf ha hc => exact nomatch (producer_ports _).recv ha
  | send d v k q hf ha hc hl =>
    obtain rfl := List.mem_singleton.1 ((producer_ports _).send ha)
    exact J_keep p h (wf_upd h.wf 0 _ _ (flag_ok _ 0 (by decide))) rfl rfl (Nat.le_refl _)
      (fun x => x.elim h.main h.seed)
  | close d k q hf ha hc =>
    obtain rfl := List.mem_singleton.1 ((producer_ports _).close ha)
    exact J_keep p h (wf_upd h.wf 0 _ none nofun) rfl rfl (Nat.le_refl _) (fun x => x.elim h.main h.seed)

/-- the indicator's goroutine (`recurMain u 2 0 3`) moves: `Head` was done -/
theorem J_step3 (s a : St Loc Int) (h : J p s) (hs : step (NR caps p seed u) 3 s = some a) : J p a := by
  cases step_fired _ _ _ _ hs with
  | sync d cl hf hc => exact J_sync p h 3 d cl hc
  | recvSome d k v rest cl hf ha hc =>
    rcases recurMain_recv ha with ⟨rfl, -⟩ | ⟨rfl, hpc⟩
    · exact J_keep p h (wf_upd h.wf 3 _ none nofun) rfl rfl (Nat.le_refl _)
        (fun _ => h.seed (.inl (by rw [hc]; exact List.cons_ne_nil _ _)))
    · exact J_keep p h (wf_upd h.wf 3 _ none nofun) rfl rfl (Nat.le_refl _) (fun _ => h.main (by omega))
  | recvNone d k hf ha hc =>
    rcases recurMain_recv ha with ⟨rfl, -⟩ | ⟨rfl, hpc⟩
    · exact J_keep p h (wf_upd h.wf 3 _ none nofun) rfl rfl (Nat.le_refl _) (fun _ => h.seed (.inr (.inl (by rw [hc]))))
    · exact J_keep p h (wf_upd h.wf 3 _ none nofun) rfl rfl (Nat.le_refl _) (fun _ => h.main (by omega))
  | send d v k q hf ha hc hl =>
    obtain ⟨rfl, hpc⟩ := recurMain_send ha
    exact J_keep p h (wf_upd h.wf 3 _ _ (flag_ok _ 3 (by decide))) rfl rfl (Nat.le_refl _)
      (fun _ => h.main (by omega))
  | close d k q hf ha hc =>
    obtain ⟨rfl, hpc⟩ := recurMain_close ha
    exact J_keep p h (wf_upd h.wf 3 _ none nofun) rfl rfl (Nat.le_refl _) (fun _ => h.main (by omega))

/-- the reader (`sink 3`) moves: nothing `J` looks at changes -/
theorem J_step4 (s a : St Loc Int) (h : J p s) (hs : step (NR caps p seed u) 4 s = some a) : J p a := by
  cases step_fired _ _ _ _ hs with
  | sync d cl hf hc => exact J_sync p h 4 d cl hc
  | recvSome d k v rest cl hf ha hc =>
    obtain rfl := List.mem_singleton.1 ((sink_ports _).recv ha)
    exact J_keep p h (wf_upd h.wf 4 _ none nofun) rfl rfl (Nat.le_refl _) (fun x => x.elim h.main h.seed)
  | recvNone d k hf ha hc =>
    obtain rfl := List.mem_singleton.1 ((sink_ports _).recv ha)
    exact J_keep p h (wf_upd h.wf 4 _ none nofun) rfl rfl (Nat.le_refl _) (fun x => x.elim h.main h.seed)
  | send d v k q hf ha hc hl => exact nomatch (sink_ports _).send ha
  | close d k q hf ha hc => exact nomatch (sink_ports _).close ha

theorem J_step (s a : St Loc Int) (q : Nat) (h : J p s) (hs : step (NR caps p seed u) q s = some a) : J p a := by
  match q with
  | 0 => exact J_step0 caps p seed u s a h hs
  | 1 => exact J_step1 caps p seed u s a h hs
  | 2 => exact J_step2 caps p seed u s a h hs
  | 3 => exact J_step3 caps p seed u s a h hs
  | 4 => exact J_step4 caps p seed u s a h hs
  | n + 5 =>
    cases step_fired _ _ _ _ hs with
    | sync d cl hf hc => exact J_sync p h _ d cl hc
    | recvSome d k v rest cl hf ha hc => cases ha
    | recvNone d k hf ha hc => cases ha
    | send d v k q hf ha hc hl => cases ha
    | close d k q hf ha hc => cases ha

/-! ### who may be at which end of which channel -/

/-- a process of `recurNet` sends only on the channel of its own number -/
theorem NR_send (q d : Nat) (l k' : Loc) (v : Int) (h : (NR caps p seed u).act q l = .send d v k') : d = q := by
  match q with
  | 0 => exact List.mem_singleton.1 ((producer_ports _).send h)
  | 1 => exact (headM_send h).1
  | 2 => exact (seedBox_send h).1
  | 3 => exact (recurMain_send h).1
  | 4 => exact nomatch (sink_ports _).send h
  | n + 5 => cases h

/-- … and closes only that channel -/
theorem NR_close (q d : Nat) (l k' : Loc) (h : (NR caps p seed u).act q l = .close d k') : d = q := by
  match q with
  | 0 => exact List.mem_singleton.1 ((producer_ports _).close h)
  | 1 => exact (headM_close h).1
  | 2 => exact (seedBox_close h).1
  | 3 => exact (recurMain_close h).1
  | 4 => exact nomatch (sink_ports _).close h
  | n + 5 => cases h

/-- … and receives from the channel before it — `Head` only while it has values to take — or, the indicator's
    goroutine at its program point 2, from the input -/
theorem NR_recv (q d : Nat) (l : Loc) (k : Option Int → Loc) (h : (NR caps p seed u).act q l = .recv d k) :
    (d + 1 = q ∧ (q = 1 → l.pc = 0 ∧ ¬ l.reg.headD 0 ≤ 0)) ∨ (d = 0 ∧ q = 3 ∧ l.pc = 2) := by
  match q with
  | 0 => exact nomatch (producer_ports _).recv h
  | 1 =>
    obtain ⟨rfl, hpc, hr, -⟩ := headM_recv h
    exact .inl ⟨rfl, fun _ => ⟨hpc, hr⟩⟩
  | 2 =>
    obtain ⟨rfl, -⟩ := seedBox_recv h
    exact .inl ⟨rfl, fun x => absurd x (by decide)⟩
  | 3 =>
    rcases recurMain_recv h with ⟨rfl, -⟩ | ⟨rfl, hpc⟩
    · exact .inl ⟨rfl, fun x => absurd x (by decide)⟩
    · exact .inr ⟨rfl, rfl, hpc⟩
  | 4 =>
    obtain rfl := List.mem_singleton.1 ((sink_ports _).recv h)
    exact .inl ⟨rfl, fun x => absurd x (by decide)⟩
  | n + 5 => cases h

theorem ops (s : St Loc Int) (h : J p s) (q x : Nat)
    (hc : (opOf (NR caps p seed u) q (s.procs q)).chan = some x) :
    ((opOf (NR caps p seed u) q (s.procs q)).isWriter = true ∧ x = q) ∨
    ((opOf (NR caps p seed u) q (s.procs q)).isReader = true ∧ x + 1 = q ∧
        (q = 1 → (s.procs 1).1.pc = 0 ∧ ¬ (s.procs 1).1.reg.headD 0 ≤ 0)) ∨
    ((opOf (NR caps p seed u) q (s.procs q)).isReader = true ∧ x = 0 ∧ q = 3 ∧ (s.procs 3).1.pc = 2) := by
  cases hw : (s.procs q).2 with
  | some c0 =>
    have ho : opOf (NR caps p seed u) q (s.procs q) = .sync c0 := by unfold opOf; simp only [hw]
    rw [ho] at hc ⊢
    cases hc
    exact .inl ⟨rfl, (h.wf q _ hw).1⟩
  | none =>
    cases ha : (NR caps p seed u).act q (s.procs q).1 with
    | recv d k =>
      have ho : opOf (NR caps p seed u) q (s.procs q) = .rd d k := by unfold opOf; simp only [hw, ha]
      rw [ho] at hc ⊢
      cases hc
      rcases NR_recv caps p seed u q _ _ _ ha with ⟨e, g⟩ | ⟨e, rfl, g⟩
      · exact .inr (.inl ⟨rfl, e, fun e1 => by subst e1; exact g rfl⟩)
      · exact .inr (.inr ⟨rfl, e, rfl, g⟩)
    | send d v k =>
      have ho : opOf (NR caps p seed u) q (s.procs q) = .snd d v k := by unfold opOf; simp only [hw, ha]
      rw [ho] at hc ⊢
      cases hc
      exact .inl ⟨rfl, NR_send caps p seed u q _ _ _ _ ha⟩
    | close d k =>
      have ho : opOf (NR caps p seed u) q (s.procs q) = .cls d k := by unfold opOf; simp only [hw, ha]
      rw [ho] at hc ⊢
      cases hc
      exact .inl ⟨rfl, NR_close caps p seed u q _ _ _ ha⟩
    | halt =>
      have ho : opOf (NR caps p seed u) q (s.procs q) = .halt := by unfold opOf; simp only [hw, ha]
      rw [ho] at hc
      cases hc

theorem J_noConflict (s : St Loc Int) (h : J p s) : NoConflict (NR caps p seed u) s := by
  intro a b c hab hca hcb
  have ha := ops caps p seed u s h a c hca
  have hb := ops caps p seed u s h b c hcb
  have hm := h.main
  simp only [HeadDone] at hm
  rcases ha with ⟨wa, ea⟩ | ⟨ra, ea, na⟩ | ⟨ra, e0, ea, pa⟩ <;>
  rcases hb with ⟨wb, eb⟩ | ⟨rb, eb, nb⟩ | ⟨rb, e0', eb, pb⟩
  · omega
  · exact Or.inr ⟨wa, rb⟩
  · exact Or.inr ⟨wa, rb⟩
  · exact Or.inl ⟨ra, wb⟩
  · omega
  · have := na (by omega); have := hm (by omega); omega
  · exact Or.inl ⟨ra, wb⟩
  · have := nb (by omega); have := hm (by omega); omega
  · omega

/-- **the hand-over is safe**: whatever the input, the period, the capacities and the schedule, no reachable state has two
    processes about to use the same end of a channel -/
theorem recur_safe (xs : List Int) : Safe (NR caps p seed u) (recurInit xs p) :=
  safe_of_invariant _ (J p) (fun s q a h hs => J_step caps p seed u s a q h hs) (J_noConflict caps p seed u) _ (J_init p xs)

theorem FE_allHalted (out : List Int) : AllHalted (NR caps p seed u) (FE out) := fun q =>
  match q with
  | 0 | 1 | 2 | 3 | 4 | 5 => ⟨rfl, rfl⟩
  | _ + 6 => ⟨rfl, rfl⟩

theorem recurNet_larger : Larger (recurNet (fun _ => 0) p seed u) (recurNet caps p seed u) :=
  ⟨rfl, fun c => by simp [recurNet]⟩

/-- **`trend.Ema` / `Rma` / `Smma` (seed from `Sma(Head(c, p))`, then the indicator's own loop over `c`) terminate cleanly
    and deliver the recurrence — for every input, every period `p ≥ 1`, every seed and update function, every channel
    capacity and every schedule**: every execution has at most `bound` steps, and any execution that can go no further has
    every process finished, the four channels closed and empty, and has delivered exactly `Sig.recurL p seed u xs` (the
    list semantics of the `recur` term of the value theorems) to the independent reader. -/
theorem recur_terminates_cleanly (hp : 1 ≤ p) (xs : List Int) :
    ∃ bound, ∀ t s2, run (NR caps p seed u) t (recurInit xs p) = some s2 →
      t.length ≤ bound ∧
      (Terminal (NR caps p seed u) s2 →
        AllHalted (NR caps p seed u) s2 ∧ (∀ c, c < 4 → s2.chans c = ([], true)) ∧
        (s2.procs 4).1.reg = Sig.recurL p seed u xs) := by
  obtain ⟨⟨b, h⟩, hA, -⟩ := clean_of_reach _ _ (recurNet_larger caps p seed u) _ _ (recur_safe caps p seed u xs)
    (recur_canonical p seed u hp xs) (FE_allHalted (fun _ => 0) p seed u _)
  refine ⟨b, fun t s2 h2 => ⟨(h t s2 h2).1, fun hT => ?_⟩⟩
  obtain rfl := (h t s2 h2).2 hT
  refine ⟨hA, fun c hc => ?_, rfl⟩
  match c with
  | 0 | 1 | 2 | 3 => rfl
  | n + 4 => omega

/-- EMA as the registry term has it: `recur p (smaSeed p) (fun before n => (n − before)·m + before)` over ℤ -/
example : NetM.emaRun 0 3 2 [3, 6, 9, 12, 15] = (true, true, [6, 18, 12]) := by decide
/-- an input shorter than the period: no seed, nothing delivered, everything closes -/
example : NetM.emaRun 0 3 2 [3, 6] = (true, true, []) := by decide
example : Sig.recurL 3 (NetM.emaSeedZ 3) (NetM.emaUpdZ 2) [3, 6, 9, 12, 15] = [6, 18, 12] := by decide

end C03
