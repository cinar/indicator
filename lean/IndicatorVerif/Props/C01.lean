import IndicatorVerif.Props.C01Gen
import IndicatorVerif.Proofs.ScaleReal
/-
  C01 — indicator values equal their documented formulas: the indicators whose proof needs an argument of its own
  (a stateful step, a sign convention).  (The others: Props/C01Gen.lean; proved-so-far list: DESIGN §6 C01.)
-/
namespace C01
open Sig Ind

/-- the spec combinator `cache` never changes a value -/
theorem cache_is_identity {α : Type} [Arith α] (N : Nat) (a : PS α) (i : Nat) :
    (PS.cache N a).val i = a.val i ∧ (PS.cache N a).start = a.start :=
  ⟨PS.cache_val N a i, PS.cache_start N a⟩

/-- what `Agree` means for the lists the Go code emits: for every input length `n`, the list
    semantics of a well-aligned model term equals the list of formula values for positions
    `start … n−1` -/
theorem lists_equal_formula {x : Nat → Nat → ℝ} {e : Sig ℝ} {P : PS ℝ} {A : Nat}
    (h : Agree x e P) (hg : Good e P.start A) (n : Nat) : evalL (envOf x A n) e = P.toList n :=
  h.evalL_eq hg n

theorem vpt_formula (N : Nat) (fs : List ℝ) (x : Nat → Nat → ℝ) :
    ∃ e ps, lookup "Vpt" [] fs = some e ∧ Spec.formulas N "Vpt" [] fs x = some ps ∧
      List.Forall₂ (Agree x) e.outs ps := by
  refine ⟨_, _, rfl, rfl, ?_⟩
  simp only [ind_body]
  repeat' (first | apply List.Forall₂.cons | apply List.Forall₂.nil)
  apply Sig.Agree.cast
  agree_core N
  all_goals (try ps_simp)
  intro i hi
  have : (fun (acc : ℝ) (i : ℕ) => acc + (x 0 i - x 0 (i - 1)) / x 0 (i - 1) * x 1 i)
       = (fun (acc : ℝ) (i : ℕ) => acc + x 1 i * (x 0 i - x 0 (i - 1)) / x 0 (i - 1)) := by
    funext acc j; ring
  rw [this]

/-- the recursive moving average of the negated stream is the negated average -/
theorem rma_neg (N p s : Nat) (f g : Nat → ℝ) (h : ∀ i, g i = -f i) (i : Nat) :
    (PS.rma N p ⟨s, g⟩).val i = -(PS.rma N p ⟨s, f⟩).val i := by
  have := (PS.Scaled.rma N p (c := -1) (P := ⟨s, f⟩) (Q := ⟨s, g⟩) ⟨rfl, fun i => by simp [h]⟩).2 i
  simpa using this

/-- RSI on an input stream: Go's `100 − 100/(1 + gains/(−avg of negative changes))` is the documented
    `100 − 100/(1 + AvgGain/AvgLoss)` -/
theorem rsi_agree (N : Nat) (p : Nat) (h0 : 1 ≤ p) (x : Nat → Nat → ℝ) :
    Agree x (Ind.rsi p (Sig.input 0)) (Spec.rsi N p (PS.input (x 0))) := by
  simp only [ind_body]
  apply Sig.Agree.cast
  agree_core N
  all_goals (try ps_simp)
  any_goals omega
  intro i hi
  simp
  rw [rma_neg N p 1 (fun i => if x 0 i < x 0 (i - 1) then x 0 (i - 1) - x 0 i else 0)
    (fun i => if x 0 i < x 0 (i - 1) then x 0 i - x 0 (i - 1) else 0) (fun j => by split <;> ring) i]
  rw [neg_neg]
  ring

theorem rsi_formula (N : Nat) (p : Nat) (fs : List ℝ) (h0 : 1 ≤ p) (x : Nat → Nat → ℝ) :
    ∃ e ps, lookup "Rsi" [p] fs = some e ∧ Spec.formulas N "Rsi" [p] fs x = some ps ∧
      List.Forall₂ (Agree x) e.outs ps :=
  ⟨_, _, rfl, rfl, List.Forall₂.cons (rsi_agree N p h0 x) List.Forall₂.nil⟩

theorem stochasticRsi_formula (N : Nat) (p : Nat) (fs : List ℝ) (h0 : 1 ≤ p) (x : Nat → Nat → ℝ) :
    ∃ e ps, lookup "StochasticRsi" [p] fs = some e ∧ Spec.formulas N "StochasticRsi" [p] fs x = some ps ∧
      List.Forall₂ (Agree x) e.outs ps := by
  refine ⟨_, _, rfl, rfl, ?_⟩
  refine List.Forall₂.cons ?_ List.Forall₂.nil
  have hr := rsi_agree N p h0 x
  simp only [Ind.stochasticRsi, Ind.div, Ind.sub, Ind.i0, List.getD_cons_zero]
  have hmn := Sig.Agree.movingMin p h0 hr
  have hmx := Sig.Agree.movingMax p h0 hr
  have hr0 := Sig.Agree.skip (p - 1) hr
  have num := Sig.Agree.zip (fun a b => a - b) hr0 hmn rfl
  have den := Sig.Agree.zip (fun a b => a - b) hmx hmn rfl
  have q := Sig.Agree.zip (fun a b => a / b) num den rfl
  refine q.cast ?_ ?_
  · simp [PS.mmax, PS.mmin, PS.map2, Spec.rsi, PS.map]
  · intro i _; rfl

/-- StochasticRsi whose RSI period `rp` differs from the min/max look-back `w` -/
theorem stochasticRsiG_formula (N : Nat) (rp w : Nat) (fs : List ℝ) (h0 : 1 ≤ rp) (h1 : 1 ≤ w) (x : Nat → Nat → ℝ) :
    ∃ e ps, lookup "StochasticRsiG" [rp, w] fs = some e ∧ Spec.formulas N "StochasticRsiG" [rp, w] fs x = some ps ∧
      List.Forall₂ (Agree x) e.outs ps := by
  refine ⟨_, _, rfl, rfl, ?_⟩
  refine List.Forall₂.cons ?_ List.Forall₂.nil
  have hr := rsi_agree N rp h0 x
  simp only [Ind.stochasticRsiG, Ind.div, Ind.sub, Ind.i0, List.getD_cons_zero, List.getD_cons_succ]
  have hmn := Sig.Agree.movingMin w h1 hr
  have hmx := Sig.Agree.movingMax w h1 hr
  have hr0 := Sig.Agree.skip (w - 1) hr
  have num := Sig.Agree.zip (fun a b => a - b) hr0 hmn rfl
  have den := Sig.Agree.zip (fun a b => a - b) hmx hmn rfl
  have q := Sig.Agree.zip (fun a b => a / b) num den rfl
  refine q.cast ?_ ?_
  · simp [PS.mmax, PS.mmin, PS.map2, Spec.rsi, PS.map]
  · intro i _; rfl

/-- an accumulator over two aligned streams (`scan2` whose state is its output) is the documented
    running recurrence `acc_i = F acc_{i-1} a_i b_i` started from `init` -/
theorem agree_accum2 {x : Nat → Nat → ℝ} {a b : Sig ℝ} {PA PB : PS ℝ} (N : Nat) (init : ℝ) (F : ℝ → ℝ → ℝ → ℝ)
    (ha : Agree x a PA) (hb : Agree x b PB) (hs : PA.start = PB.start) :
    Agree x (Sig.scan2 ℝ init (fun prev u v => (F prev u v, F prev u v)) a b)
      (PS.cumul N PA.start init (fun acc i => F acc (PA.val i) (PB.val i))) := by
  have hoffa := ha.offD
  constructor
  · simp [off, ha.1, hb.1, join2, hs, PS.cumul]
  · intro i hi
    simp only [PS.cumul] at hi ⊢
    simp only [den, hoffa, PS.tabVal_eq, scanOut2]
    have key : ∀ m, (scanSt2 (fun (prev u v : ℝ) => (F prev u v, F prev u v)) init
        (fun m => den x a (PA.start + m)) (fun m => den x b (PA.start + m)) (m + 1))
        = PS.recG (F init (PA.val PA.start) (PB.val PA.start))
            (fun acc k => F acc (PA.val (PA.start + k + 1)) (PB.val (PA.start + k + 1))) m := by
      intro m
      induction m with
      | zero =>
        simp only [scanSt2, PS.recG, Nat.add_zero]
        rw [ha.2 PA.start (Nat.le_refl _), hb.2 PA.start (by omega)]
      | succ m ih =>
        rw [scanSt2, ih]
        simp only [PS.recG]
        rw [ha.2 (PA.start + (m + 1)) (by omega), hb.2 (PA.start + (m + 1)) (by omega)]
        simp [Nat.add_assoc]
    have := key (i - PA.start)
    simp only [scanSt2] at this
    exact this

theorem nvi_formula (N : Nat) (fs : List ℝ) (x : Nat → Nat → ℝ) :
    ∃ e ps, lookup "Nvi" [] fs = some e ∧ Spec.formulas N "Nvi" [] fs x = some ps ∧
      List.Forall₂ (Agree x) e.outs ps := by
  refine ⟨_, _, rfl, rfl, ?_⟩
  refine List.Forall₂.cons ?_ List.Forall₂.nil
  simp only [Ind.nvi, Ind.i0, Ind.i1]
  have hcr : Agree x (Ind.changeRatio 1 (Sig.input 0)) ⟨1, fun i => (x 0 i - x 0 (i - 1)) / x 0 (i - 1)⟩ := by
    simp only [ind_body]
    apply Sig.Agree.cast
    agree_core N
    all_goals (try ps_simp)
    all_goals (first | omega | (intro i hi; trivial) | (intro i hi; rfl))
  have hvc : Agree x (Ind.change 1 (Sig.input 1)) ⟨1, fun i => x 1 i - x 1 (i - 1)⟩ := by
    simp only [ind_body]
    apply Sig.Agree.cast
    agree_core N
    all_goals (try ps_simp)
    all_goals (first | omega | (intro i hi; trivial) | (intro i hi; rfl))
  have h := agree_accum2 N (fs.getD 0 Ind.zero)
    (fun prev u v => if Arith.le v Ind.zero then prev + u * prev else prev) hcr hvc rfl
  refine h.cast rfl ?_
  intro i _
  have z : (Ind.zero : ℝ) = 0 := by simp [Ind.zero]
  have hF : (fun (acc : ℝ) (i : ℕ) => if Arith.le (x 1 i - x 1 (i - 1)) Ind.zero then acc + (x 0 i - x 0 (i - 1)) / x 0 (i - 1) * acc else acc)
      = (fun acc i => if Arith.gt (x 1 i) (x 1 (i - 1)) then acc else acc + (x 0 i - x 0 (i - 1)) / x 0 (i - 1) * acc) := by
    funext acc j
    by_cases hv : x 1 (j - 1) < x 1 j
    · have : ¬ (x 1 j - x 1 (j - 1) ≤ 0) := by linarith
      simp [z, hv, this]
    · have : x 1 j - x 1 (j - 1) ≤ 0 := by linarith
      simp [z, hv, this]
  show (PS.cumul N 1 (fs.getD 0 Ind.zero) (fun acc i => if Arith.le (x 1 i - x 1 (i - 1)) Ind.zero then acc + (x 0 i - x 0 (i - 1)) / x 0 (i - 1) * acc else acc)).val i = _
  rw [hF]

/-- Kaufman's recurrence: the first value starts from the previous closing, later ones from the previous KAMA -/
theorem agree_kama_scan {x : Nat → Nat → ℝ} {a b c : Sig ℝ} {PA PB PC : PS ℝ} (N : Nat)
    (ha : Agree x a PA) (hb : Agree x b PB) (hc : Agree x c PC) (hs1 : PA.start = PB.start) (hs2 : PA.start = PC.start) :
    Agree x (Sig.scan3 (Option ℝ) none Ind.kamaStep a b c)
      (PS.cumul N PA.start Ind.zero (fun acc i =>
        (if i = PA.start then PA.val i else acc) + PC.val i * (PB.val i - (if i = PA.start then PA.val i else acc)))) := by
  have hoffa := ha.offD
  constructor
  · simp [off, ha.1, hb.1, hc.1, join2, ← hs1, ← hs2, PS.cumul]
  · intro i hi
    simp only [PS.cumul] at hi ⊢
    simp only [den, hoffa, PS.tabVal_eq, scanOut3]
    have key : ∀ m, (scanSt3 Ind.kamaStep none
        (fun m => den x a (PA.start + m)) (fun m => den x b (PA.start + m)) (fun m => den x c (PA.start + m)) (m + 1))
        = some (PS.recG (PA.val PA.start + PC.val PA.start * (PB.val PA.start - PA.val PA.start))
            (fun acc k => acc + PC.val (PA.start + k + 1) * (PB.val (PA.start + k + 1) - acc)) m) := by
      intro m
      induction m with
      | zero =>
        simp only [scanSt3, Ind.kamaStep, PS.recG, Nat.add_zero]
        rw [ha.2 PA.start (Nat.le_refl _), hb.2 PA.start (by omega), hc.2 PA.start (by omega)]
      | succ m ih =>
        rw [scanSt3, ih]
        simp only [Ind.kamaStep, PS.recG]
        rw [hb.2 (PA.start + (m + 1)) (by omega), hc.2 (PA.start + (m + 1)) (by omega)]
        simp [Nat.add_assoc]
    have h1 := key (i - PA.start)
    simp only [scanSt3] at h1
    -- the output of a step is the value stored in the new state
    have hout : ∀ (st : Option ℝ) (p q r : ℝ), (Ind.kamaStep st p q r).1 = some (Ind.kamaStep st p q r).2 := by
      intro st p q r; rfl
    rw [hout] at h1
    have h2 := Option.some.inj h1
    rw [h2]
    -- the documented recurrence has the same first value and the same update
    have hf : (fun (acc : ℝ) (k : ℕ) =>
        (if PA.start + k + 1 = PA.start then PA.val (PA.start + k + 1) else acc) +
          PC.val (PA.start + k + 1) *
            (PB.val (PA.start + k + 1) - if PA.start + k + 1 = PA.start then PA.val (PA.start + k + 1) else acc))
        = (fun acc k => acc + PC.val (PA.start + k + 1) * (PB.val (PA.start + k + 1) - acc)) := by
      funext acc k
      have : ¬ (PA.start + k + 1 = PA.start) := by omega
      simp only [this, if_false]
    simp only [if_true, hf]

theorem kama_formula (N : Nat) (er fast slow : Nat) (fs : List ℝ) (h0 : 1 ≤ er) (x : Nat → Nat → ℝ) :
    ∃ e ps, lookup "Kama" [er, fast, slow] fs = some e ∧ Spec.formulas N "Kama" [er, fast, slow] fs x = some ps ∧
      List.Forall₂ (Agree x) e.outs ps := by
  refine ⟨_, _, rfl, rfl, ?_⟩
  refine List.Forall₂.cons ?_ List.Forall₂.nil
  simp only [Ind.kama, Ind.i0, List.getD_cons_zero, List.getD_cons_succ]
  have hA : Agree x (Sig.lag 1 (Sig.skip (er - 1) (Sig.input 0))) ⟨er, fun i => x 0 (i - 1)⟩ := by
    apply Sig.Agree.cast
    agree_core N
    all_goals (first | (simp; omega) | (intro i hi; rfl))
  have hB : Agree x (Sig.skip er (Sig.input 0)) ⟨er, x 0⟩ := by
    apply Sig.Agree.cast
    agree_core N
    all_goals (first | (simp; done) | (intro i hi; rfl))
  -- the smoothing constant stream
  set fastSc : ℝ := Spec.two / Arith.nat (fast + 1) with hfast
  set slowSc : ℝ := Spec.two / Arith.nat (slow + 1) with hslow
  have hC : Agree x
      (Ind.pow2 (Ind.incBy (Ind.two / Arith.nat (slow + 1)) (Ind.mulBy (Ind.two / Arith.nat (fast + 1) - Ind.two / Arith.nat (slow + 1))
        (Ind.div (Ind.absS (Ind.change er (Sig.input 0))) (Ind.movingSum er (Ind.absS (Ind.change 1 (Sig.input 0))))))))
      (PS.map (fun e => Arith.sq (e * (fastSc - slowSc) + slowSc))
        (PS.map Arith.abs (PS.input (x 0) - PS.prev er (PS.input (x 0))) /
          PS.msum er (PS.map Arith.abs (PS.input (x 0) - PS.prev 1 (PS.input (x 0)))))) := by
    simp only [ind_body]
    agree_tac N
  have hst : (PS.map (fun e => Arith.sq (e * (fastSc - slowSc) + slowSc))
        (PS.map Arith.abs (PS.input (x 0) - PS.prev er (PS.input (x 0))) /
          PS.msum er (PS.map Arith.abs (PS.input (x 0) - PS.prev 1 (PS.input (x 0)))))).start = er := by
    simp [PS.map, PS.map2, PS.msum, PS.prev, PS.input]
    omega
  have h := agree_kama_scan N hA hB hC rfl hst.symm
  refine h.cast (by simp [PS.cumul]; exact hst.symm) ?_
  intro i _
  simp only [PS.cumul]
  rw [hst]

theorem mf_pos (d r : ℝ) (hr : 0 ≤ r) :
    (if 0 < (if 0 < d then (1 : ℝ) else if d < 0 then -1 else 0) * r then (if 0 < d then (1 : ℝ) else if d < 0 then -1 else 0) * r else 0)
      = if 0 < d then r else 0 := by
  by_cases h1 : 0 < d
  · simp only [h1, if_true, one_mul]
    split
    · rfl
    · linarith
  · by_cases h2 : d < 0
    · simp only [h1, h2, if_true, if_false]
      have : ¬ (0 < -1 * r) := by linarith
      simp only [this, if_false]
    · simp [h1, h2]

theorem mf_neg (d r : ℝ) (hr : 0 ≤ r) :
    (if (if 0 < d then (1 : ℝ) else if d < 0 then -1 else 0) * r < 0 then (if 0 < d then (1 : ℝ) else if d < 0 then -1 else 0) * r else 0) * -1
      = if d < 0 then r else 0 := by
  by_cases h1 : 0 < d
  · have h2 : ¬ d < 0 := by linarith
    have : ¬ (1 * r < 0) := by linarith
    simp only [h1, h2, this, if_true, if_false, zero_mul]
  · by_cases h2 : d < 0
    · simp only [h1, h2, if_true, if_false]
      by_cases h3 : -1 * r < 0
      · simp only [h3, if_true]; ring
      · simp only [h3, if_false]; linarith
    · simp [h1, h2]

theorem mfi_formula (N : Nat) (p : Nat) (fs : List ℝ) (h0 : 1 ≤ p) (x : Nat → Nat → ℝ)
    (hx : ∀ i, 0 ≤ (x 0 i + x 1 i + x 2 i) / 3 * x 3 i) :
    ∃ e ps, lookup "Mfi" [p] fs = some e ∧ Spec.formulas N "Mfi" [p] fs x = some ps ∧
      List.Forall₂ (Agree x) e.outs ps := by
  refine ⟨_, _, rfl, rfl, ?_⟩
  simp only [ind_body]
  repeat' (first | apply List.Forall₂.cons | apply List.Forall₂.nil)
  apply Sig.Agree.cast
  agree_core N
  all_goals (try ps_simp)
  any_goals omega
  intro i hi
  simp only [ArithReal.arith_nat, ArithReal.div_eq, ArithReal.mul_eq, ArithReal.add_eq, ArithReal.sub_eq, Ind.one, Ind.hundred, Ind.negOne, Ind.zero,
    ArithReal.arith_neg, ArithReal.arith_inv, ArithReal.arith_gt, ArithReal.arith_lt, Spec.hundred, Spec.one, Spec.zero]
  push_cast
  simp only [mf_pos _ _ (hx _), mf_neg _ _ (hx _)]
  ring

/-! ### SuperTrend: the Go state machine (first flag, trend, previous closing, final bands) is the documented fold -/

/-- the documented step on the state (upTrend, finalUpper, finalLower, superTrend) -/
noncomputable def stSpecStep (bu bl pc cl : ℝ) (first : Bool) (st : Bool × ℝ × ℝ × ℝ) : Bool × ℝ × ℝ × ℝ :=
  if first then (false, bu, bl, bl) else
  let (up, fu, fl, _) := st
  let fu' := if Arith.lt bu fu || Arith.gt pc fu then bu else fu
  let fl' := if Arith.gt bl fl || Arith.lt pc fl then bl else fl
  if up then (if Arith.le cl fu' then (true, fu', fl', fu') else (false, fu', fl', fl'))
  else (if Arith.ge cl fl' then (false, fu', fl', fl') else (true, fu', fl', fu'))

/-- one Go step from a state that corresponds to the documented state gives the documented next state and output -/
theorem st_step_corr (S : Ind.StState ℝ) (T : Bool × ℝ × ℝ × ℝ) (med am cl : ℝ)
    (hf : S.first = false) (hu : S.upTrend = T.1) (hfu : S.finalUpperBand = T.2.1) (hfl : S.finalLowerBand = T.2.2.1) :
    let S' := (Ind.superTrendStep S med am cl).1
    let T' := stSpecStep (med + am) (med - am) S.previousClosing cl false T
    S'.first = false ∧ S'.upTrend = T'.1 ∧ S'.finalUpperBand = T'.2.1 ∧ S'.finalLowerBand = T'.2.2.1 ∧
      S'.previousClosing = cl ∧ (Ind.superTrendStep S med am cl).2 = T'.2.2.2 := by
  obtain ⟨up, fu, fl, stv⟩ := T
  simp only at hu hfu hfl
  simp only [Ind.superTrendStep, stSpecStep, hf, hu, hfu, hfl, Bool.false_eq_true, if_false]
  cases up <;> simp only [Bool.false_eq_true, if_false, if_true] <;> (repeat' split) <;> simp_all

theorem st_first_corr (S : Ind.StState ℝ) (med am cl : ℝ) (hf : S.first = true) (hu : S.upTrend = false) :
    let S' := (Ind.superTrendStep S med am cl).1
    let T' := stSpecStep (med + am) (med - am) 0 cl true (false, 0, 0, 0)
    S'.first = false ∧ S'.upTrend = T'.1 ∧ S'.finalUpperBand = T'.2.1 ∧ S'.finalLowerBand = T'.2.2.1 ∧
      S'.previousClosing = cl ∧ (Ind.superTrendStep S med am cl).2 = T'.2.2.2 := by
  simp [Ind.superTrendStep, stSpecStep, hf, hu]

/-- the documented fold over positions -/
noncomputable def stSpecFold (N : Nat) (PA PB PC : PS ℝ) : Nat → Bool × ℝ × ℝ × ℝ :=
  PS.cumulState N PA.start (false, (0 : ℝ), (0 : ℝ), (0 : ℝ)) (fun acc i =>
    stSpecStep (PA.val i + PB.val i) (PA.val i - PB.val i) (PC.val (i - 1)) (PC.val i) (i == PA.start) acc)

theorem agree_supertrend_scan {x : Nat → Nat → ℝ} {a b c : Sig ℝ} {PA PB PC : PS ℝ} (N : Nat)
    (ha : Agree x a PA) (hb : Agree x b PB) (hc : Agree x c PC) (hs1 : PA.start = PB.start) (hs2 : PA.start = PC.start) :
    Agree x (Sig.scan3 (Ind.StState ℝ) ⟨true, false, Ind.zero, Ind.zero, Ind.zero⟩ Ind.superTrendStep a b c)
      ⟨PA.start, fun i => (stSpecFold N PA PB PC i).2.2.2⟩ := by
  have hoffa := ha.offD
  constructor
  · simp [off, ha.1, hb.1, hc.1, join2, ← hs1, ← hs2]
  · intro i hi
    simp only at hi
    simp only [den, hoffa, stSpecFold, PS.cumulState, PS.tabVal_eq, scanOut3]
    set s := PA.start with hsdef
    set A := fun m => den x a (s + m) with hA
    set B := fun m => den x b (s + m) with hB
    set C := fun m => den x c (s + m) with hC
    have eA : ∀ m, A m = PA.val (s + m) := fun m => ha.2 _ (by omega)
    have eB : ∀ m, B m = PB.val (s + m) := fun m => hb.2 _ (by omega)
    have eC : ∀ m, C m = PC.val (s + m) := fun m => hc.2 _ (by omega)
    set f : (Bool × ℝ × ℝ × ℝ) → Nat → (Bool × ℝ × ℝ × ℝ) := fun acc i =>
      stSpecStep (PA.val i + PB.val i) (PA.val i - PB.val i) (PC.val (i - 1)) (PC.val i) (i == s) acc with hf
    set T := PS.recG (f (false, (0 : ℝ), (0 : ℝ), (0 : ℝ)) s) (fun acc k => f acc (s + k + 1)) with hT
    set init : Ind.StState ℝ := ⟨true, false, Ind.zero, Ind.zero, Ind.zero⟩ with hinit
    have key : ∀ m,
        let S' := scanSt3 Ind.superTrendStep init A B C (m + 1)
        S'.first = false ∧ S'.upTrend = (T m).1 ∧ S'.finalUpperBand = (T m).2.1 ∧ S'.finalLowerBand = (T m).2.2.1 ∧
          S'.previousClosing = C m ∧
          (Ind.superTrendStep (scanSt3 Ind.superTrendStep init A B C m) (A m) (B m) (C m)).2 = (T m).2.2.2 := by
      intro m
      induction m with
      | zero =>
        have h := st_first_corr init (A 0) (B 0) (C 0) rfl rfl
        simp only [scanSt3]
        have eT : T 0 = stSpecStep (A 0 + B 0) (A 0 - B 0) 0 (C 0) true (false, 0, 0, 0) := by
          simp only [hT, PS.recG, hf, eA, eB, eC, Nat.add_zero, beq_self_eq_true]
          simp [stSpecStep]
        rw [eT]
        exact h
      | succ m ih =>
        obtain ⟨h1, h2, h3, h4, h5, _⟩ := ih
        have h := st_step_corr (scanSt3 Ind.superTrendStep init A B C (m + 1)) (T m) (A (m + 1)) (B (m + 1)) (C (m + 1)) h1 h2 h3 h4
        have eT : T (m + 1) = stSpecStep (A (m + 1) + B (m + 1)) (A (m + 1) - B (m + 1))
            (scanSt3 Ind.superTrendStep init A B C (m + 1)).previousClosing (C (m + 1)) false (T m) := by
          simp only [hT, PS.recG]
          simp only [hf]
          have hne : (s + m + 1 == s) = false := by
            simp only [beq_eq_false_iff_ne, ne_eq]; omega
          rw [hne, h5, eA, eB, eC, eC]
          have e1 : s + m + 1 - 1 = s + m := by omega
          rw [e1]
          rfl
        rw [eT]
        simp only [scanSt3] at h ⊢
        exact h
    exact (key (i - s)).2.2.2.2.2

theorem atr_start (N k p : Nat) (hp : 1 ≤ p) (x : Nat → Nat → ℝ) :
    (Spec.atr N (Spec.maOf k p) (PS.input (x 0)) (PS.input (x 1)) (PS.input (x 2))).start = Ind.atrIdle (Ind.maOf k p) := by
  unfold Spec.maOf Ind.maOf
  split <;> simp [Spec.atr, Spec.ma, Spec.trueRange, Ind.atrIdle, Ind.maIdle, PS.sma, PS.over, PS.map, PS.msum, PS.map3, PS.prev,
    PS.input, PS.ema, PS.recAvg, PS.smma, PS.rma, PS.wma, Spec.hma, PS.map2, PS.scale, Spec.halfRound, Ind.halfRound,
    Spec.roundSqrt, Ind.roundSqrt] <;> omega

theorem superTrend_formula (N : Nat) (k p : Nat) (fs : List ℝ) (h0 : 1 ≤ p) (x : Nat → Nat → ℝ) :
    ∃ e ps, lookup "SuperTrend" [k, p] fs = some e ∧ Spec.formulas N "SuperTrend" [k, p] fs x = some ps ∧
      List.Forall₂ (Agree x) e.outs ps := by
  refine ⟨_, _, rfl, rfl, ?_⟩
  refine List.Forall₂.cons ?_ List.Forall₂.nil
  simp only [Ind.superTrend, Ind.i0, Ind.i1, Ind.i2, List.getD_cons_zero, List.getD_cons_succ]
  set a := Ind.atrIdle (Ind.maOf k p) with ha
  set mult := fs.getD 0 Ind.zero with hmult
  have hst := atr_start N k p h0 x
  have hA : Agree x (Sig.skip a (Ind.divBy Ind.two (Ind.add (Sig.input 0) (Sig.input 1))))
      ⟨a, (PS.over Spec.two (PS.input (x 0) + PS.input (x 1))).val⟩ := by
    simp only [ind_body]
    apply Sig.Agree.cast
    agree_core N
    all_goals (first | (simp; done) | (intro i hi; simp [Ind.two, Spec.two]; done) | (intro i hi; rfl))
  have hB0 : Agree x (Ind.mulBy mult (Ind.atr (Ind.maOf k p) (Sig.input 0) (Sig.input 1) (Sig.input 2)))
      (PS.scale mult (Spec.atr N (Spec.maOf k p) (PS.input (x 0)) (PS.input (x 1)) (PS.input (x 2)))) := by
    simp only [ind_body]
    agree_tac N
  have hB : Agree x (Ind.mulBy mult (Ind.atr (Ind.maOf k p) (Sig.input 0) (Sig.input 1) (Sig.input 2)))
      ⟨a, fun i => mult * (Spec.atr N (Spec.maOf k p) (PS.input (x 0)) (PS.input (x 1)) (PS.input (x 2))).val i⟩ :=
    hB0.cast (by simp only [PS.scale, PS.map]; rw [hst]) (fun i _ => by simp only [PS.scale_val]; exact mul_comm _ _)
  have hC : Agree x (Sig.skip a (Sig.input 2)) ⟨a, (PS.input (x 2)).val⟩ := by
    apply Sig.Agree.cast
    agree_core N
    all_goals (first | (simp; done) | (intro i hi; rfl))
  have h := agree_supertrend_scan N hA hB hC rfl rfl
  refine h.cast ?_ ?_
  · simp only [Spec.superTrendFold, PS.cache_start]; rw [hst]
  · intro i _
    simp only [Spec.superTrendFold, stSpecFold, stSpecStep, PS.cache_start, PS.cache_val]
    rw [hst]
    have z : (Spec.zero : ℝ) = 0 := by simp [Spec.zero]
    simp only [z]
    rfl

end C01
