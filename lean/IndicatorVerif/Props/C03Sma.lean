import IndicatorVerif.Props.C03MovingSum
import IndicatorVerif.Model.NetSma
/-
  C03 — clean termination PROVED for `trend.Sma`, for every input, every period p ≥ 1, every input capacity, every
  `Shift` buffer ≥ p (the library allocates cap(input) + p) and every schedule:
      Sma.Compute(c) = helper.Apply(MovingSum(p).Compute(c), func(sum) { return sum / p })
  (`NetM.smaNet`: producer, Duplicate, Shift, the summing Operate, Skip, the dividing Apply, an independent reader —
  seven processes, seven channels).  It is the window pipeline of C03Window with `sumOp` as Operate-like process and
  `Apply` + reader as consumer (`map_consumer`), so the canonical run is `front_canonical`.
  The delivered values are the list semantics of the `movingSum` term
  (`evalL [xs] (Ind.movingSum p (input 0))` at element type ℤ), each divided by p.
-/
namespace C03
open Net NetM

def P7 (l0 l1 l2 l3 l4 l5 l6 : PS Loc) : Nat → PS Loc :=
  fun p => match p with | 0 => l0 | 1 => l1 | 2 => l2 | 3 => l3 | 4 => l4 | 5 => l5 | 6 => l6 | _ => (⟨0, []⟩, none)
def C7 (l0 l1 l2 l3 l4 l5 l6 : CS Int) : Nat → CS Int :=
  fun c => match c with | 0 => l0 | 1 => l1 | 2 => l2 | 3 => l3 | 4 => l4 | 5 => l5 | 6 => l6 | _ => ([], false)
@[simp] theorem P7_0 (l0 l1 l2 l3 l4 l5 l6 : PS Loc) : P7 l0 l1 l2 l3 l4 l5 l6 0 = l0 := rfl
@[simp] theorem P7_1 (l0 l1 l2 l3 l4 l5 l6 : PS Loc) : P7 l0 l1 l2 l3 l4 l5 l6 1 = l1 := rfl
@[simp] theorem P7_2 (l0 l1 l2 l3 l4 l5 l6 : PS Loc) : P7 l0 l1 l2 l3 l4 l5 l6 2 = l2 := rfl
@[simp] theorem P7_3 (l0 l1 l2 l3 l4 l5 l6 : PS Loc) : P7 l0 l1 l2 l3 l4 l5 l6 3 = l3 := rfl
@[simp] theorem P7_4 (l0 l1 l2 l3 l4 l5 l6 : PS Loc) : P7 l0 l1 l2 l3 l4 l5 l6 4 = l4 := rfl
@[simp] theorem P7_5 (l0 l1 l2 l3 l4 l5 l6 : PS Loc) : P7 l0 l1 l2 l3 l4 l5 l6 5 = l5 := rfl
@[simp] theorem P7_6 (l0 l1 l2 l3 l4 l5 l6 : PS Loc) : P7 l0 l1 l2 l3 l4 l5 l6 6 = l6 := rfl
@[simp] theorem C7_0 (l0 l1 l2 l3 l4 l5 l6 : CS Int) : C7 l0 l1 l2 l3 l4 l5 l6 0 = l0 := rfl
@[simp] theorem C7_1 (l0 l1 l2 l3 l4 l5 l6 : CS Int) : C7 l0 l1 l2 l3 l4 l5 l6 1 = l1 := rfl
@[simp] theorem C7_2 (l0 l1 l2 l3 l4 l5 l6 : CS Int) : C7 l0 l1 l2 l3 l4 l5 l6 2 = l2 := rfl
@[simp] theorem C7_3 (l0 l1 l2 l3 l4 l5 l6 : CS Int) : C7 l0 l1 l2 l3 l4 l5 l6 3 = l3 := rfl
@[simp] theorem C7_4 (l0 l1 l2 l3 l4 l5 l6 : CS Int) : C7 l0 l1 l2 l3 l4 l5 l6 4 = l4 := rfl
@[simp] theorem C7_5 (l0 l1 l2 l3 l4 l5 l6 : CS Int) : C7 l0 l1 l2 l3 l4 l5 l6 5 = l5 := rfl
@[simp] theorem C7_6 (l0 l1 l2 l3 l4 l5 l6 : CS Int) : C7 l0 l1 l2 l3 l4 l5 l6 6 = l6 := rfl

theorem smaNet_winLike (p : Nat) : WinLike (smaNet 0 p p) sumStepW p :=
  ⟨fun _ => rfl, fun _ => rfl, fun _ => rfl, sumOp_opLike 1 3 4, fun _ => rfl, rfl, rfl, rfl, rfl, rfl⟩

theorem smaNet_consumer (p : Nat) :
    Consumer (smaNet 0 p p)
      (fun vs => tcons (⟨0, []⟩, none) (tcons (⟨0, vs.map (fun s => s / (p : Int))⟩, none) D0))
      (fun vs => tcons (⟨3, []⟩, none) (tcons (⟨1, vs.map (fun s => s / (p : Int))⟩, none) D0))
      (tcons ([], false) (tcons ([], false) E0)) (tcons ([], true) (tcons ([], true) E0)) :=
  map_consumer (smaNet 0 p p) _ (fun _ => rfl) (fun _ => rfl) (fun _ => rfl) (fun _ _ => rfl) rfl rfl D0
    (fun _ => rfl) E0

theorem smaInit_eq (xs : List Int) (p : Nat) (hp : 1 ≤ p) :
    smaInit xs p = Wst xs [] p [0] (p - 1)
      (tcons (⟨0, []⟩, none) (tcons (⟨0, ([] : List Int).map (fun s => s / (p : Int))⟩, none) D0))
      (tcons ([], false) (tcons ([], false) E0)) := by
  have e : ((p - 1 : Nat) : Int) = (p : Int) - 1 := by omega
  simp only [smaInit, Wst, e]
  congr 1
  · funext q
    match q with
    | 0 | 1 | 2 | 3 | 4 | 5 | 6 => rfl
    | n + 7 => rfl
  · funext c
    match c with
    | 0 | 1 | 2 | 3 | 4 | 5 | 6 => rfl
    | n + 7 => rfl

theorem smaNet_owned (cap buf p : Nat) : Owned (smaNet cap buf p) :=
  owned_of_ports_chk _ fun q => match q with
  | 0 => ⟨[], [0], producer_ports 0, rfl⟩
  | 1 => ⟨[0], [1, 2], dup2_ports 0 1 2, rfl⟩
  | 2 => ⟨[2], [3], shiftM_ports 2 3, rfl⟩
  | 3 => ⟨[1, 3], [4], sumOp_ports 1 3 4, rfl⟩
  | 4 => ⟨[4], [5], skipM_ports 4 5, rfl⟩
  | 5 => ⟨[5], [6], mapM_ports _ 5 6, rfl⟩
  | 6 => ⟨[6], [], sink_ports 6, rfl⟩
  | _ + 7 => ⟨[], [], halt_ports, rfl⟩

theorem smaInit_wf (cap buf : Nat) (xs : List Int) (p : Nat) : WF (smaNet cap buf p) (smaInit xs p) := by
  intro q c h
  simp only [smaInit] at h
  split at h <;> simp at h

theorem smaNet_larger (cap buf p : Nat) (hb : p ≤ buf) : Larger (smaNet 0 p p) (smaNet cap buf p) := by
  constructor
  · rfl
  · intro c
    simp only [smaNet]
    split <;> omega

/-- **`trend.Sma` terminates cleanly and computes the moving averages — for every input, every period `p ≥ 1`, every
    input-channel capacity, every Shift buffer ≥ p (the library: cap + p) and every schedule:** every execution has at
    most `bound` steps, and any execution that can go no further has every process finished, every channel closed and
    empty, and has delivered exactly the list semantics of the `movingSum` term, each value divided by `p`, to the
    independent reader. -/
theorem sma_terminates_cleanly (xs : List Int) (p cap buf : Nat) (hp : 1 ≤ p) (hb : p ≤ buf) :
    ∃ bound, ∀ t s2, run (smaNet cap buf p) t (smaInit xs p) = some s2 →
      t.length ≤ bound ∧
      (Terminal (smaNet cap buf p) s2 →
        AllHalted (smaNet cap buf p) s2 ∧ (∀ c, s2.chans c = ([], true) ∨ 7 ≤ c) ∧
        (s2.procs 6).1.reg
          = (Sig.evalL [xs] (Ind.movingSum p (Sig.input 0))).map (fun s => s / (p : Int))) := by
  have hr := front_canonical (smaNet_winLike p) (smaNet_consumer p) hp xs [0] (p - 1)
  rw [← smaInit_eq xs p hp] at hr
  obtain ⟨⟨b, h⟩, hA, -⟩ := clean_of_reach _ _ (smaNet_larger cap buf p hb) _ _
    (owned_safe _ (smaNet_owned cap buf p) _ (smaInit_wf cap buf xs p)) hr
    (front_allHalted (smaNet_winLike p) (smaNet_consumer p) _)
  refine ⟨b, fun t s2 h2 => ⟨(h t s2 h2).1, fun hT => ?_⟩⟩
  obtain rfl := (h t s2 h2).2 hT
  refine ⟨hA, fun c => ?_, by rw [← sums_eq_movingSum p hp xs, ← winOuts_sumStepW]; rfl⟩
  match c with
  | 0 | 1 | 2 | 3 | 4 | 5 | 6 => exact .inl rfl
  | n + 7 => exact .inr (by omega)

/-- the library's own buffering: `Shift` allocates `cap(input) + p` -/
theorem sma_library_buffers (xs : List Int) (p cap : Nat) (hp : 1 ≤ p) :
    ∃ bound, ∀ t s2, run (smaNet cap (cap + p) p) t (smaInit xs p) = some s2 →
      t.length ≤ bound ∧ (Terminal (smaNet cap (cap + p) p) s2 → AllHalted (smaNet cap (cap + p) p) s2) := by
  obtain ⟨b, h⟩ := sma_terminates_cleanly xs p cap (cap + p) hp (by omega)
  exact ⟨b, fun t s2 h2 => ⟨(h t s2 h2).1, fun hT => ((h t s2 h2).2 hT).1⟩⟩

example : NetM.smaRun 0 3 3 [1, 2, 3, 4, 5, 6] = (true, true, [2, 3, 4, 5]) := by decide
/-- with a Shift buffer two short of the period the same pipeline deadlocks on unbuffered channels -/
example : NetM.smaRun 0 1 3 [1, 2, 3, 4, 5, 6] = (true, false, []) := by decide

end C03
