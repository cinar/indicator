import IndicatorVerif.Props.C16
/-
  C16, continued — the stream helpers that have a goroutine model in Model/Stream.lean but no
  theorem in Props/C16: ChangePercent, Since, Seq, Echo.  Core-only.
-/
namespace C16
open Stream
variable {α β γ ρ : Type}

/-! ### ChangePercent = ChangeRatio × 100 -/

/-- slice counterpart: `((c[j+k] - c[j]) / c[j]) * 100`, defined here -/
def changePercentS (sub div mul : α → α → α) (hundred : α) (k : Nat) (l : List α) : List α :=
  List.zipWith (fun cur old => mul (div (sub cur old) old) hundred) (l.drop k) l

theorem changePercent_eq_map (sub div mul : α → α → α) (hundred : α) (k : Nat) (l : List α) :
    changePercentM sub div mul hundred k l
      = (changeRatioS sub div k l).map (fun n => mul n hundred) := by
  rw [changePercentM, map_eq, changeRatio_eq]

theorem changePercent_eq (sub div mul : α → α → α) (hundred : α) (k : Nat) (l : List α) :
    changePercentM sub div mul hundred k l = changePercentS sub div mul hundred k l := by
  rw [changePercent_eq_map, changeRatioS, List.map_zipWith, changePercentS]

theorem changePercent_length (sub div mul : α → α → α) (hundred : α) (k : Nat) (l : List α) :
    (changePercentM sub div mul hundred k l).length = l.length - k := by
  simp [changePercent_eq, changePercentS]

theorem changeRatio_length (sub div : α → α → α) (k : Nat) (l : List α) :
    (changeRatioM sub div k l).length = l.length - k := by
  simp [changeRatio_eq, changeRatioS]

/-! ### Since -/

theorem iter_succ_out (f : β → β) (n : Nat) (b : β) : iter f (n + 1) b = f (iter f n b) := by
  induction n generalizing b with
  | zero => rfl
  | succ n ih => rw [iter, ih (f b)]; rfl

/-- inside a run: the slice recursion `sinceS.go` emits the current count and then exactly what the
    goroutine emits from the state (run start, current count) -/
theorem since_go (beq : α → α → Bool) (succ : β → β) (zeroR : β) (t : List α) (last : α) (cnt : Nat) :
    (sinceS.go beq last cnt t).map (fun k => iter succ k zeroR)
      = iter succ cnt zeroR :: sinceM beq succ zeroR (some last, iter succ cnt zeroR) t := by
  induction t generalizing last cnt with
  | nil => rfl
  | cons y t ih =>
    rw [sinceS.go, sinceM, sinceStep, List.map_cons]
    split
    · rw [ih, iter_succ_out]
    · rw [ih]; rfl

/-- Since (any result type `R` with `count = 0` / `count++`), started as in Go (`first = true`;
    the initial `count` is irrelevant): the run-length counter `sinceS`, read in `R`. -/
theorem since_eq (beq : α → α → Bool) (succ : β → β) (zeroR b0 : β) (xs : List α) :
    sinceM beq succ zeroR (none, b0) xs = (sinceS beq xs).map (fun k => iter succ k zeroR) := by
  cases xs with
  | nil => rfl
  | cons x t => rw [sinceS, since_go]; rfl

theorem iter_succ_nat (k : Nat) : iter Nat.succ k 0 = k := by
  induction k with
  | zero => rfl
  | succ k ih => rw [iter_succ_out, ih]

/-- … and for `R = Nat` literally -/
theorem since_eq_nat (beq : α → α → Bool) (b0 : Nat) (xs : List α) :
    sinceM beq Nat.succ 0 (none, b0) xs = sinceS beq xs := by
  rw [since_eq, funext iter_succ_nat, List.map_id']

/-- one output per input, from any state -/
theorem sinceM_length (beq : α → α → Bool) (succ : β → β) (zeroR : β) (st : Option α × β)
    (xs : List α) : (sinceM beq succ zeroR st xs).length = xs.length := by
  induction xs generalizing st with
  | nil => rfl
  | cons x t ih => simp [sinceM, ih]

theorem sinceS_length (beq : α → α → Bool) (xs : List α) : (sinceS beq xs).length = xs.length := by
  rw [← since_eq_nat beq 0, sinceM_length]

example : sinceM (fun a b : Nat => a == b) Nat.succ 0 (none, 0) [7, 7, 7, 2, 2, 7, 3, 3, 3, 3]
    = [0, 1, 2, 0, 1, 0, 0, 1, 2, 3] := by decide
example : sinceM (fun a b : Nat => a == b) Nat.succ 0 (none, 5) ([] : List Nat) = [] := by decide
example : sinceM (fun a b : Nat => a == b) (· + 1) (0 : Int) (none, 0) [4] = [0] := by decide

/-! ### Since, positionally (a slice counterpart made of take / reverse / takeWhile) -/

/-- run length ending at the head of a reversed prefix: how many values immediately before the
    newest one are equal to it -/
def runBack (beq : α → α → Bool) : List α → Nat
  | [] => 0
  | x :: h => (h.takeWhile (fun y => beq y x)).length

/-- positional slice counterpart of Since (defined here, through take / reverse / takeWhile):
    output i = number of values immediately preceding `xs[i]` that are equal to it -/
def sinceL (beq : α → α → Bool) (xs : List α) : List Nat :=
  (List.range xs.length).map (fun i => runBack beq (xs.take (i + 1)).reverse)

section
variable {beq : α → α → Bool} (hsymm : ∀ a b, beq a b = beq b a)
  (htrans : ∀ a b c, beq a b = true → beq b c = true → beq a c = true)
include hsymm htrans

/-- values the test relates are related to the same values -/
theorem beq_congr {x y : α} (h : beq x y = true) (w : α) : beq x w = beq y w :=
  Bool.eq_iff_iff.mpr ⟨htrans y x w (hsymm x y ▸ h), htrans x y w h⟩

theorem runBack_cons_cons (y x : α) (h : List α) :
    runBack beq (y :: x :: h) = if beq x y then runBack beq (x :: h) + 1 else 0 := by
  rw [runBack, List.takeWhile_cons]
  cases hxy : beq x y with
  | false => rfl
  | true =>
    have : (fun v => beq v y) = fun v => beq v x :=
      funext fun v => by rw [hsymm v, hsymm v, beq_congr hsymm htrans hxy]
    simp [runBack, this]

theorem since_go_pos (t : List α) (last x : α) (h : List α) (hl : ∀ w, beq last w = beq x w) :
    sinceS.go beq last (runBack beq (x :: h)) t
      = (List.range (t.length + 1)).map (fun i => runBack beq ((t.take i).reverse ++ x :: h)) := by
  induction t generalizing last x h with
  | nil => rfl
  | cons y t ih =>
    rw [sinceS.go, hl y, List.length_cons, map_range_succ]
    congr 1
    -- in both branches the new count is `runBack (y :: x :: h)` and the run start tests like `y`
    have e := runBack_cons_cons hsymm htrans y x h
    by_cases hxy : beq x y = true
    · rw [if_pos hxy] at e ⊢
      rw [← e, ih last y (x :: h) fun w => (hl w).trans (beq_congr hsymm htrans hxy w)]
      simp
    · rw [if_neg hxy] at e ⊢
      rw [← e, ih y y (x :: h) fun _ => rfl]
      simp

/-- Since, positionally: for an equality test that is symmetric and transitive (Go's `==` on a
    comparable type, NaN included — reflexivity is not needed), output i counts the values
    immediately before `xs[i]` equal to it. -/
theorem sinceS_eq_sinceL (xs : List α) : sinceS beq xs = sinceL beq xs := by
  cases xs with
  | nil => rfl
  | cons x t => simpa [sinceS, sinceL, runBack] using since_go_pos hsymm htrans t x x [] fun _ => rfl
end

theorem since_eq_pos (beq : α → α → Bool) (succ : β → β) (zeroR b0 : β)
    (hsymm : ∀ a b, beq a b = beq b a)
    (htrans : ∀ a b c, beq a b = true → beq b c = true → beq a c = true) (xs : List α) :
    sinceM beq succ zeroR (none, b0) xs = (sinceL beq xs).map (fun k => iter succ k zeroR) := by
  rw [since_eq, sinceS_eq_sinceL hsymm htrans]

example : sinceL (fun a b : Nat => a == b) [7, 7, 7, 2, 2, 7, 3, 3, 3, 3]
    = [0, 1, 2, 0, 1, 0, 0, 1, 2, 3] := by decide

/-! ### Seq (integers, positive increment; Go's fixed-width overflow is outside the model) -/

/-- number of values: ⌈(to − from) / inc⌉, 0 when `to ≤ from` -/
def seqCount (from_ to_ inc : Int) : Nat := ((to_ - from_ + inc - 1) / inc).toNat

/-- slice counterpart (defined here): `from, from+inc, …`, `seqCount` values -/
def seqS (from_ to_ inc : Int) : List Int :=
  (List.range (seqCount from_ to_ inc)).map (fun (i : Nat) => from_ + (i : Int) * inc)

theorem seqCount_done (from_ to_ inc : Int) (hinc : 0 < inc) (h : ¬ from_ < to_) :
    seqCount from_ to_ inc = 0 := by
  unfold seqCount
  have : (to_ - from_ + inc - 1) / inc < 1 := Int.ediv_lt_of_lt_mul hinc (by omega)
  omega

theorem seqCount_step (from_ to_ inc : Int) (hinc : 0 < inc) (h : from_ < to_) :
    seqCount from_ to_ inc = seqCount (from_ + inc) to_ inc + 1 := by
  unfold seqCount
  have e : to_ - from_ + inc - 1 = (to_ - (from_ + inc) + inc - 1) + 1 * inc := by omega
  have h0 : 0 ≤ (to_ - (from_ + inc) + inc - 1) / inc := Int.ediv_nonneg (by omega) (by omega)
  rw [e, Int.add_mul_ediv_right _ _ (by omega)]
  omega

theorem seqS_done {from_ to_ inc : Int} (hinc : 0 < inc) (h : ¬ from_ < to_) :
    seqS from_ to_ inc = [] := by
  simp [seqS, seqCount_done from_ to_ inc hinc h]

theorem seqS_step {from_ to_ inc : Int} (hinc : 0 < inc) (h : from_ < to_) :
    seqS from_ to_ inc = from_ :: seqS (from_ + inc) to_ inc := by
  rw [seqS, seqS, seqCount_step from_ to_ inc hinc h, map_range_succ]
  simp [Int.add_mul, Int.add_assoc, Int.add_comm inc]

/-- with any fuel the loop emits the first `fuel` values -/
theorem seqM_eq_take (to_ inc : Int) (hinc : 0 < inc) (fuel : Nat) (from_ : Int) :
    seqM from_ to_ inc fuel = (seqS from_ to_ inc).take fuel := by
  fun_induction seqM from_ to_ inc fuel with
  | case1 => rfl
  | case2 from_ fuel hlt ih => rw [ih, seqS_step hinc hlt, List.take_succ_cons]
  | case3 from_ fuel hlt => rw [seqS_done hinc hlt, List.take_nil]

/-- Seq: for every positive increment and every fuel that does not cut the loop short -/
theorem seq_eq (to_ inc : Int) (hinc : 0 < inc) (fuel : Nat) :
    ∀ from_ : Int, seqCount from_ to_ inc ≤ fuel → seqM from_ to_ inc fuel = seqS from_ to_ inc := by
  intro from_ h
  rw [seqM_eq_take to_ inc hinc, List.take_of_length_le (by simpa [seqS] using h)]

theorem seq_length (from_ to_ inc : Int) (hinc : 0 < inc) (fuel : Nat)
    (h : seqCount from_ to_ inc ≤ fuel) : (seqM from_ to_ inc fuel).length = seqCount from_ to_ inc := by
  rw [seq_eq to_ inc hinc fuel from_ h]; simp [seqS]

example : seqM 2 11 3 10 = [2, 5, 8] := by decide
example : seqS 2 11 3 = [2, 5, 8] := by decide
example : seqM 5 5 1 10 = [] := by decide
example : seqM 7 3 2 10 = [] := by decide
example : seqS 0 1 5 = [0] := by decide

/-! ### Echo -/

/-- slice counterpart (defined here).  The echoed block is what `memory.At(0..last-1)` holds: the
    last `last` inputs — and, when the input is *shorter* than `last`, all the inputs followed by
    `last - len` zero values (the ring slots never written). -/
def echoS (zero : α) (last count : Nat) (xs : List α) : List α :=
  xs ++ (List.replicate count
          (xs.drop (xs.length - last) ++ List.replicate (last - xs.length) zero)).flatten

/-- what `memory.At(0), …, memory.At(last-1)` read after the copy loop -/
theorem echo_memory (z : α) (last : Nat) (hlast : 0 < last) (xs : List α) :
    (List.range last).map
        (fun j => (xs.foldl (fun r n => (r.put n).1) (RingBuf.new z last)).atIdx j)
      = xs.drop (xs.length - last) ++ List.replicate (last - xs.length) z := by
  obtain ⟨inv, hlen, hl⟩ := RingBuf.foldl_put last xs (RingBuf.new z last)
    (RingBuf.new_inv z last hlast) (by simp [RingBuf.new])
  obtain ⟨hfresh, hz⟩ := RingBuf.foldl_put_fresh xs _ (RingBuf.new_inv z last hlast) (RingBuf.fresh_new z last)
  rw [RingBuf.new_toList, List.nil_append] at hl
  have := hfresh.map_atIdx inv
  rw [hlen, hl, hz] at this
  rw [this, List.length_drop]
  congr 2
  show last - (xs.length - (xs.length - last)) = last - xs.length
  omega

/-- Echo, for every `last ≥ 1` (NewRing(0) divides by zero in `At`), every `count` and every input
    length, including inputs shorter than `last` (zero-padded echo) and the empty input. -/
theorem echo_eq (z : α) (last count : Nat) (hlast : 0 < last) (xs : List α) :
    echoM z last count xs = echoS z last count xs := by
  simp only [echoM, echoS, pipe_id, echo_memory z last hlast xs]

/-- the length is `len + last * count` whatever the input length -/
theorem echo_length (z : α) (last count : Nat) (hlast : 0 < last) (xs : List α) :
    (echoM z last count xs).length = xs.length + last * count := by
  rw [echo_eq z last count hlast]
  have : (xs.drop (xs.length - last) ++ List.replicate (last - xs.length) z).length = last := by
    simp; omega
  simp only [echoS, List.length_append, List.length_flatten, List.map_replicate, this,
    List.sum_replicate_nat]
  rw [Nat.mul_comm]

/-- input at least as long as `last`: the echo is the last `last` inputs, repeated -/
theorem echo_eq_long (z : α) (last count : Nat) (hlast : 0 < last) (xs : List α)
    (hlen : last ≤ xs.length) :
    echoM z last count xs = xs ++ (List.replicate count (lastS last xs)).flatten := by
  rw [echo_eq z last count hlast, echoS, lastS]
  have : last - xs.length = 0 := by omega
  simp [this]

example : echoM 0 2 2 [1, 2, 3, 4] = [1, 2, 3, 4, 3, 4, 3, 4] := by decide
/-- input shorter than `last`: zeros are echoed too -/
example : echoM 0 3 2 [7] = [7, 7, 0, 0, 7, 0, 0] := by decide
example : echoM 0 2 1 ([] : List Nat) = [0, 0] := by decide
example : echoS 0 3 2 [7] = [7, 7, 0, 0, 7, 0, 0] := by decide
example : echoM 9 2 0 [1, 2, 3] = [1, 2, 3] := by decide

end C16
