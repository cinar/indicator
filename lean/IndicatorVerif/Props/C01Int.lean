import Mathlib.Tactic.Ring
import IndicatorVerif.Model.Registry
import IndicatorVerif.Proofs.ExtremaGen
/-
  C01 at an integer element type.  The registry terms are generic over `Arith α`; with `instance : Arith Int`
  (exact ring operations, `/` = truncating `Int.tdiv`) the same model terms describe the library instantiated at
  `int`/`int64` (no overflow).  These theorems state, for every input family over ℤ, every period and every position
  past the warm-up, that the integer-safe indicators are the documented formula evaluated exactly with one
  truncating division at the end.  Tied to the Go code by the INDI (Go, `int64`) / INDZ (this model at `Int`) run.
-/
namespace C01
open Sig Ind

/-- prefix sums -/
def TZ (g : Nat → Int) (m : Nat) : Int := ((List.range m).map g).sum

theorem TZ_succ (g : Nat → Int) (m : Nat) : TZ g (m + 1) = TZ g m + g m := by
  simp [TZ, List.range_succ]

theorem window_sumZ (g : Nat → Int) (a p : Nat) :
    ((List.range p).map (fun j => g (a + j))).sum = TZ g (a + p) - TZ g a := by
  induction p with
  | zero => simp
  | succ p ih =>
    rw [List.range_succ, List.map_append, List.sum_append, ih, ← Nat.add_assoc, TZ_succ]
    simp
    ring

theorem iadd (a b : Int) : Arith.add a b = a + b := rfl
theorem isub (a b : Int) : Arith.sub a b = a - b := rfl
theorem idiv (a b : Int) : Arith.div a b = Int.tdiv a b := rfl
theorem inat (n : Nat) : (Arith.nat n : Int) = (n : Int) := rfl

/-- state of the running sum `sum = sum + c - b` after `m` steps, over ℤ -/
theorem running_stateZ (g : Nat → Int) (p : Nat) (m : Nat) :
    scanSt2 (sumStep (α := Int)) 0 g (fun k => if k < p then 0 else g (k - p)) m = TZ g m - TZ g (m - p) := by
  induction m with
  | zero => simp [scanSt2, TZ]
  | succ m ih =>
    simp only [scanSt2, sumStep, ih]
    show Arith.sub (Arith.add (TZ g m - TZ g (m - p)) (g m)) (if m < p then 0 else g (m - p)) = _
    rw [iadd, isub]
    by_cases h : m < p
    · have e1 : m - p = 0 := by omega
      have e2 : m + 1 - p = 0 := by omega
      simp only [h, e1, e2, if_true, TZ_succ]
      simp [TZ]
    · have e2 : m + 1 - p = (m - p) + 1 := by omega
      simp only [h, e2, if_false, TZ_succ]
      ring

/-- **MovingSum over ℤ**: the value for position i ≥ p − 1 is the exact sum of the window ending at i -/
theorem movingSum_int (x : Nat → Nat → Int) (p : Nat) (hp : 1 ≤ p) (i : Nat) (hi : p - 1 ≤ i) :
    den x (movingSum p (input 0)) i = ((List.range p).map (fun j => x 0 (i + 1 - p + j))).sum := by
  simp only [movingSum, den, Sig.offD, Sig.off, Option.getD_some, Nat.zero_add, Nat.sub_zero, scanOut2, sumStep]
  have hst := running_stateZ (fun m => x 0 m) p i
  have hf : (fun m => if m < p then (zero : Int) else x 0 (m - p)) = fun k => if k < p then 0 else x 0 (k - p) := rfl
  show Arith.sub (Arith.add (scanSt2 sumStep zero (fun m => x 0 m) (fun m => if m < p then zero else x 0 (m - p)) i) (x 0 i))
      (if i < p then zero else x 0 (i - p)) = _
  rw [hf]
  have hz : (zero : Int) = 0 := rfl
  rw [hz, hst, iadd, isub]
  have ws := window_sumZ (fun m => x 0 m) (i + 1 - p) p
  rw [ws]
  by_cases hlt : i < p
  · have e1 : i - p = 0 := by omega
    have e2 : i + 1 - p = 0 := by omega
    have e3 : 0 + p = i + 1 := by omega
    simp only [hlt, e1, e2, e3, if_true, TZ_succ]
    simp [TZ]
  · have e2 : i + 1 - p = (i - p) + 1 := by omega
    have e3 : i - p + 1 + p = i + 1 := by omega
    simp only [hlt, e2, e3, if_false, TZ_succ]
    ring

/-- **SMA over ℤ**: the window sum divided by the period, truncated toward zero -/
theorem sma_int (x : Nat → Nat → Int) (p : Nat) (hp : 1 ≤ p) (i : Nat) (hi : p - 1 ≤ i) :
    den x (sma p (input 0)) i = Int.tdiv (((List.range p).map (fun j => x 0 (i + 1 - p + j))).sum) p := by
  have h := movingSum_int x p hp i hi
  simp only [sma, den] at h ⊢
  rw [h]
  rfl

/-- **Typical price over ℤ** = (high + low + close) / 3 truncated -/
theorem typicalPrice_int (x : Nat → Nat → Int) (i : Nat) :
    den x (typicalPrice (input 0) (input 1) (input 2)) i = Int.tdiv (x 0 i + x 1 i + x 2 i) 3 := rfl

/-- **Weighted close over ℤ** = (high + low + 2·close) / 4 truncated -/
theorem weightedClose_int (x : Nat → Nat → Int) (i : Nat) :
    den x (weightedClose (input 0) (input 1) (input 2)) i = Int.tdiv (x 0 i + x 1 i + x 2 i * 2) 4 := rfl

/-! ### moving extrema over ℤ: the sliding search tree holds exactly the window -/

theorem cmpA_lawful_int : Bst.Lawful (Ind.cmpA : Cmp Int) :=
  ⟨fun a b => by simp [Ind.cmpA, Arith.le], fun a b => by simp [Ind.cmpA, Arith.lt], fun a b => by simp [Ind.cmpA, Arith.beq]⟩

/-- **MovingMax over ℤ**: for i ≥ p − 1 the value is a member of the window ending at i and no member exceeds it -/
theorem movingMax_int (x : Nat → Nat → Int) (p : Nat) (hp : 1 ≤ p) (i : Nat) (hi : p - 1 ≤ i) :
    den x (movingMax p (input 0)) i ∈ SigG.windowG p (x 0) i ∧
    ∀ y ∈ SigG.windowG p (x 0) i, y ≤ den x (movingMax p (input 0)) i := by
  have h : den x (movingMax p (input 0)) i =
      scanOut2 (bstStep (Bst.maxD (zero : Int)) p) (.nil, 0) (x 0) (fun k => if k < p then zero else x 0 (k - p)) i := by
    simp only [movingMax, den, Sig.offD, Sig.off, Option.getD_some, Nat.zero_add, Nat.sub_zero]
  rw [h]
  exact SigG.ext_out_max cmpA_lawful_int (x 0) p hp i (by omega)

/-- **MovingMin over ℤ**: a member of the window ending at i, below every member -/
theorem movingMin_int (x : Nat → Nat → Int) (p : Nat) (hp : 1 ≤ p) (i : Nat) (hi : p - 1 ≤ i) :
    den x (movingMin p (input 0)) i ∈ SigG.windowG p (x 0) i ∧
    ∀ y ∈ SigG.windowG p (x 0) i, den x (movingMin p (input 0)) i ≤ y := by
  have h : den x (movingMin p (input 0)) i =
      scanOut2 (bstStep (Bst.minD (zero : Int)) p) (.nil, 0) (x 0) (fun k => if k < p then zero else x 0 (k - p)) i := by
    simp only [movingMin, den, Sig.offD, Sig.off, Option.getD_some, Nat.zero_add, Nat.sub_zero]
  rw [h]
  exact SigG.ext_out_min cmpA_lawful_int (x 0) p hp i (by omega)

/-- **Donchian channel over ℤ**: upper and lower are the window extrema, middle = (upper + lower) / 2 truncated, and
    upper ≥ middle ≥ lower for all integer inputs, negative ones included (C15 for the integer instantiation) -/
theorem donchian_int (x : Nat → Nat → Int) (p : Nat) (i : Nat) :
    donchianChannel p (input 0 : Sig Int) = [movingMax p (input 0), divBy two (add (movingMax p (input 0)) (movingMin p (input 0))), movingMin p (input 0)] ∧
    den x (divBy two (add (movingMax p (input 0)) (movingMin p (input 0)))) i =
      Int.tdiv (den x (movingMax p (input 0)) i + den x (movingMin p (input 0)) i) 2 :=
  ⟨rfl, rfl⟩

theorem donchian_ordered_int (x : Nat → Nat → Int) (p : Nat) (hp : 1 ≤ p) (i : Nat) (hi : p - 1 ≤ i) :
    den x (movingMin p (input 0)) i ≤ Int.tdiv (den x (movingMax p (input 0)) i + den x (movingMin p (input 0)) i) 2 ∧
    Int.tdiv (den x (movingMax p (input 0)) i + den x (movingMin p (input 0)) i) 2 ≤ den x (movingMax p (input 0)) i := by
  obtain ⟨hmaxmem, hmaxub⟩ := movingMax_int x p hp i hi
  obtain ⟨hminmem, hminlb⟩ := movingMin_int x p hp i hi
  have hle : den x (movingMin p (input 0)) i ≤ den x (movingMax p (input 0)) i := hmaxub _ hminmem
  generalize den x (movingMax p (input 0)) i = U at *
  generalize den x (movingMin p (input 0)) i = L at *
  by_cases h0 : 0 ≤ U + L
  · rw [Int.tdiv_eq_ediv_of_nonneg h0]
    omega
  · have h1 : 0 ≤ -(U + L) := by omega
    have e : Int.tdiv (U + L) 2 = -((-(U + L)) / 2) := by
      rw [← Int.tdiv_eq_ediv_of_nonneg h1, Int.neg_tdiv, Int.neg_neg]
    rw [e]
    omega

/-- the registry entries the INDI/INDZ run drives are these terms -/
example (p : Nat) : (lookup (α := Int) "Sma" [p] []).map (·.outs) = some [sma p (input 0)] := rfl

/-- non-vacuity / a worked value: SMA(3) of 1,2,4,7,11 at position 4 is ⌊22/3⌋ = 7 -/
example : den (fun _ i => ([1, 2, 4, 7, 11] : List Int).getD i 0) (sma 3 (input 0)) 4 = 7 := by decide

end C01
