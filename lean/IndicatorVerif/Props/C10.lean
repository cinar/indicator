import IndicatorVerif.Model.Assets
/-
  C10 — repositories behave as a map from asset name to the ordered list of snapshots appended so far.
  `Spec` = a function `String → Option (List Snap)`.  The in-memory repository (and the file-system one
  at row level; its bytes are C11) refines it exactly; the SQL repository over a conforming table refines
  it on every asset that has been appended, and — as written — reads a never-appended asset as an empty
  success (known finding, `sql_get_unknown_is_empty_success`).
-/
namespace C10
open Repo

/-- the abstract map and its operations -/
abbrev Spec := String → Option (List Snap)
def Spec.append (m : Spec) (n : String) (xs : List Snap) : Spec :=
  fun k => if k = n then some ((m n).getD [] ++ xs) else m k

def abs (s : Store) : Spec := fun n => lookup s n

theorem lookup_append (s : Store) (n m : String) (xs : List Snap) :
    lookup (append s n xs) m = if m = n then some ((lookup s n).getD [] ++ xs) else lookup s m := by
  induction s with
  | nil => simp [append, lookup, @eq_comm _ m n]
  | cons p t ih =>
    -- is the head the appended asset? is it the asset looked up?
    simp only [append, lookup]
    split <;> split <;> simp_all [lookup, @eq_comm _ m n]

/-- Append is the map update; nothing else changes the state -/
theorem abs_append (s : Store) (n : String) (xs : List Snap) :
    abs (append s n xs) = Spec.append (abs s) n xs := by
  funext m; simp [abs, Spec.append, lookup_append]

/-- **In-memory / file-system (row level) refine the map**: every read observation is the map's -/
theorem mem_observations (s : Store) (n : String) (d : Nat) :
    (memStep s (.get n)).2 = .snaps (abs s n) ∧
    (memStep s (.since n d)).2 = .snaps ((abs s n).map (sinceF d)) ∧
    (memStep s (.last n)).2 = .day ((abs s n).bind (fun l => l.getLast?.map (·.day))) := ⟨rfl, rfl, rfl⟩

/-- read-your-writes: an Append that has returned is visible to the next Get -/
theorem mem_read_your_writes (s : Store) (n : String) (xs : List Snap) :
    lookup (memStep s (.append n xs)).1 n = some ((lookup s n).getD [] ++ xs) := by
  simp [memStep, lookup_append]

/-- all histories: the observations of the in-memory model are those of the abstract map -/
def specStep (m : Spec) (keys : List String) : Op → (Spec × List String) × Obs
  | .append n xs => ((Spec.append m n xs, if keys.contains n then keys else keys ++ [n]), .done)
  | .get n => ((m, keys), .snaps (m n))
  | .since n d => ((m, keys), .snaps ((m n).map (sinceF d)))
  | .last n => ((m, keys), .day ((m n).bind (fun l => l.getLast?.map (·.day))))
  | .assets => ((m, keys), .names (sortNames keys))

def specRun (m : Spec) (keys : List String) : List Op → List Obs
  | [] => []
  | op :: ops => let (st, o) := specStep m keys op; o :: specRun st.1 st.2 ops

theorem keys_append (s : Store) (n : String) (xs : List Snap) :
    (append s n xs).map (·.1) = if (s.map (·.1)).contains n then s.map (·.1) else s.map (·.1) ++ [n] := by
  induction s with
  | nil => simp [append]
  | cons p t ih =>
    simp only [append]
    split
    · simp_all
    · have : (n == p.1) = false := by simp_all [@eq_comm _ n p.1]
      simp only [List.map_cons, ih, List.contains_cons, this, Bool.false_or]
      split <;> rfl

/-- one step: the in-memory repository on `s` does what the map does on `(abs s, keys of s)` -/
theorem memStep_refines (s : Store) (op : Op) :
    specStep (abs s) (s.map (·.1)) op =
      ((abs (memStep s op).1, (memStep s op).1.map (·.1)), (memStep s op).2) := by
  cases op with
  | append n xs => simp only [specStep, memStep, abs_append, keys_append]
  | _ => rfl

theorem mem_refines (ops : List Op) : ∀ (s : Store), runMem s ops = specRun (abs s) (s.map (·.1)) ops := by
  induction ops with
  | nil => intro s; rfl
  | cons op ops ih => intro s; simp only [runMem, specRun, memStep_refines, ih]

/-! ### SQL over a conforming table -/
def Rel (t : Table) (m : Spec) : Prop := ∀ n, rowsOf t n = (m n).getD []

theorem rowsOf_append (t : Table) (n m : String) (xs : List Snap) :
    rowsOf (t ++ xs.map (fun x => (n, x))) m = rowsOf t m ++ (if m = n then xs else []) := by
  by_cases h : m = n <;>
    simp [rowsOf, List.filter_append, List.filter_map, Function.comp_def, h, @eq_comm _ n m]

theorem sql_rel_append (t : Table) (m : Spec) (h : Rel t m) (n : String) (xs : List Snap) :
    Rel (sqlStep t (.append n xs)).1 (Spec.append m n xs) := by
  intro k
  simp only [sqlStep, rowsOf_append, Spec.append, h k]
  by_cases hk : k = n
  · subst hk; simp
  · simp [hk]

/-- on an asset that has been appended the SQL reads are the map's reads -/
theorem sql_observations (t : Table) (m : Spec) (h : Rel t m) (n : String) (d : Nat) (l : List Snap) (hl : m n = some l) :
    (sqlStep t (.get n)).2 = .snaps (m n) ∧
    (sqlStep t (.since n d)).2 = .snaps ((m n).map (sinceF d)) ∧
    (sqlStep t (.last n)).2 = .day ((m n).bind (fun l => l.getLast?.map (·.day))) := by
  simp [sqlStep, h n, hl]

/-- **Known finding, as-is**: a never-appended asset reads as an empty success instead of an error -/
theorem sql_get_unknown_is_empty_success (t : Table) (m : Spec) (h : Rel t m) (n : String) (hn : m n = none) :
    (sqlStep t (.get n)).2 = .snaps (some []) := by
  simp [sqlStep, h n, hn]

/-! non-vacuity -/
example : runMem [] [.append "x" [⟨1, 1⟩, ⟨2, 2⟩], .get "x", .since "x" 2, .last "x", .get "y", .assets]
    = [.done, .snaps (some [⟨1, 1⟩, ⟨2, 2⟩]), .snaps (some [⟨2, 2⟩]), .day (some 2), .snaps none, .names ["x"]] := by decide

end C10
