import IndicatorVerif.Model.Stream
import IndicatorVerif.Proofs.Ring
/-
  C16 — every stream helper (sequential-goroutine model `…M`, a recursion mirroring the Go loop)
  equals its slice counterpart, for every input length (empty and shorter-than-parameter included)
  and every parameter; zipping helpers have the length of the shortest input and consume the
  longer inputs to the end.  Core-only; no hypotheses on the inputs.
-/
namespace C16
open Stream
variable {α β γ ρ : Type}

theorem pipe_id (l : List α) : pipeM l = l := by
  induction l with
  | nil => rfl
  | cons x t ih => simp [pipeM, ih]

theorem map_eq (f : α → β) (l : List α) : mapM f l = l.map f := by
  induction l with
  | nil => rfl
  | cons x t ih => simp [mapM, ih]

theorem filter_eq (p : α → Bool) (l : List α) : filterM p l = l.filter p := by
  fun_induction filterM p l <;> simp_all

theorem map_range_succ (g : Nat → β) (n : Nat) :
    (List.range (n + 1)).map g = g 0 :: (List.range n).map (fun i => g (i + 1)) := by
  simp [List.range_succ_eq_map, Function.comp_def]

/-- MapWithPrevious: the i-th output is the fold of the first i+1 inputs -/
theorem mapWithPrevious_eq (f : β → α → β) (b : β) (l : List α) :
    mapWithPreviousM f b l = (List.range l.length).map (fun i => (l.take (i + 1)).foldl f b) := by
  induction l generalizing b with
  | nil => rfl
  | cons x t ih => simp [mapWithPreviousM, map_range_succ, ih]

/-- Skip = drop, for every count (also beyond the length) -/
theorem skip_eq (k : Nat) (l : List α) : skipM k l = skipS k l := by
  fun_induction skipM k l <;> simp_all [skipS, pipe_id]

/-- Head = take, and it leaves exactly the rest unread (no drain) -/
theorem head_eq (k : Nat) (l : List α) : headM k l = (l.take k, l.drop k) := by
  fun_induction headM k l <;> simp_all

/-- First = take, and it consumes its input to the end -/
theorem first_eq (k : Nat) (l : List α) : firstM k l = (headS k l, []) := by
  simp [firstM, head_eq, headS]

theorem shift_eq (k : Nat) (fill : α) (l : List α) : shiftM k fill l = shiftS k fill l := by
  simp [shiftM, shiftS, pipe_id]

theorem shift_length (k : Nat) (fill : α) (l : List α) : (shiftM k fill l).length = k + l.length := by
  simp [shift_eq, shiftS]

theorem duplicate_eq (k : Nat) (l : List α) :
    (duplicateM k l).length = k ∧ ∀ o ∈ duplicateM k l, o = l := by
  simp [duplicateM, pipe_id]

/-- Operate = zipWith (length of the shortest input) and both inputs are consumed to the end -/
theorem operate_eq (o : α → β → ρ) (as : List α) (bs : List β) :
    operateM o as bs = (operateS o as bs, [], []) := by
  fun_induction operateM o as bs <;> simp_all [operateS]

theorem operate_length (o : α → β → ρ) (as : List α) (bs : List β) :
    (operateM o as bs).1.length = min as.length bs.length := by
  simp [operate_eq, operateS]

theorem operate3_eq (o : α → β → γ → ρ) (as : List α) (bs : List β) (cs : List γ) :
    operate3M o as bs cs = (operate3S o as bs cs, [], [], []) := by
  induction as generalizing bs cs with
  | nil => simp [operate3M, operate3S]
  | cons a as ih =>
    cases bs with
    | nil => simp [operate3M, operate3S]
    | cons b bs =>
      cases cs with
      | nil => simp [operate3M, operate3S]
      | cons c cs => simp [operate3M, operate3S, ih]

theorem operate3_length (o : α → β → γ → ρ) (as : List α) (bs : List β) (cs : List γ) :
    (operate3M o as bs cs).1.length = min (min as.length bs.length) cs.length := by
  simp [operate3_eq, operate3S]

/-- Change(c, k)[j] = c[j+k] - c[j] -/
theorem change_eq (sub : α → α → α) (k : Nat) (l : List α) : changeM sub k l = changeS sub k l := by
  simp [changeM, changeS, operate_eq, operateS, skip_eq, skipS, pipe_id]

theorem change_length (sub : α → α → α) (k : Nat) (l : List α) : (changeM sub k l).length = l.length - k := by
  simp [change_eq, changeS]

theorem changeRatio_eq (sub div : α → α → α) (k : Nat) (l : List α) :
    changeRatioM sub div k l = changeRatioS sub div k l := by
  simp only [changeRatioM, changeRatioS, operate_eq, operateS, change_eq, changeS, pipe_id]
  apply List.ext_getElem
  · simp
  · intro i h1 h2
    simp

theorem count_eq (succ : β → β) (b : β) (l : List α) : countM succ b l = countS succ b l := by
  induction l generalizing b with
  | nil => rfl
  | cons x t ih => simp [countM, ih, countS, map_range_succ, iter]

/-- draining a ring with `Get` yields its contents, oldest first -/
theorem lastDrain_eq (fuel : Nat) (r : RingBuf α) (h : RingBuf.Inv r) (hf : r.toList.length ≤ fuel) :
    lastDrain fuel r = r.toList := by
  induction fuel generalizing r with
  | zero =>
    have : r.toList = [] := List.length_eq_zero_iff.mp (by omega)
    simp [lastDrain, this]
  | succ fuel ih =>
    cases hne : r.empty with
    | true => simp [lastDrain, RingBuf.isEmpty, hne, (RingBuf.isEmpty_iff r h).mp hne]
    | false =>
      obtain ⟨i1, _, _, i4, i5⟩ := RingBuf.get_spec r h hne
      have hget : r.get = ((r.get).1, some (r.atIdx 0)) := by rw [← i4]
      rw [i5] at hf ⊢
      simp only [lastDrain, RingBuf.isEmpty, hne, Bool.false_eq_true, if_false]
      rw [hget]
      simp only
      rw [ih _ i1 (by simpa using hf)]

/-- Last(c, k) = the last k elements (all of them when fewer), via the ring refinement -/
theorem last_eq (z : α) (k : Nat) (hk : 0 < k) (l : List α) : lastM z k l = lastS k l := by
  obtain ⟨inv, _, hl⟩ := RingBuf.foldl_put k l (RingBuf.new z k) (RingBuf.new_inv z k hk) (by simp [RingBuf.new])
  rw [RingBuf.new_toList, List.nil_append] at hl
  simp only [lastM, lastS]
  rw [lastDrain_eq _ _ inv (by rw [hl]; simp; omega), hl]

/-! non-vacuity: concrete runs -/
example : skipM 5 [1, 2, 3] = ([] : List Nat) := by decide
example : (headM 2 [1, 2, 3]) = ([1, 2], [3]) := by decide
example : (operateM (· + ·) [1, 2, 3] [10, 20]).1 = [11, 22] := by decide
example : lastM 0 2 [1, 2, 3, 4, 5] = [4, 5] := by decide
example : changeM (fun a b : Int => a - b) 2 [1, 4, 9, 16] = [8, 12] := by decide

end C16
