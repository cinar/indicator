import IndicatorVerif.Model.Assets
/-
  C11 — CSV codec glue: a file at row level (`CsvFile`), and reading by header name.
  The per-field codecs (strconv, time, encoding/csv quoting, encoding/json) are a named assumption:
  they are exercised on every run by the round-trip check (all supported kinds, extreme values), not
  proved.  What is proved is the glue the library adds around them.
-/
namespace C11
open CsvFile (File write appendF appendOrWrite)

/-- writing replaces whatever the file contained (holds since the O_TRUNC fix) -/
theorem write_replaces (f : File) (rows : List Nat) : CsvFile.read (write f rows) = some rows := rfl

/-- appending keeps the existing rows and adds the new ones after them -/
theorem append_keeps_prefix (old rows : List Nat) :
    (appendF (some (true, old)) rows).map CsvFile.read = some (some (old ++ rows)) := rfl

/-- appending to a missing file is an error (O_APPEND without O_CREATE) and changes nothing -/
theorem append_missing_fails (rows : List Nat) : appendF none rows = none := rfl

/-- files the library's own operations produce: rows only ever follow a header line.  (The only way out of
    this set is a plain `AppendToFile` on an existing 0-byte file, which writes rows without a header; such a
    file is outside the domain of the property — the reader would take its first row for the header.) -/
def WF : File → Prop
  | some (false, _ :: _) => False
  | _ => True

theorem write_wf (f : File) (rows : List Nat) : WF (write f rows) := trivial

/-- on a file of that set AppendOrWrite is a Write of the rows read back plus the new ones -/
theorem appendOrWrite_eq_write (f : File) (rows : List Nat) (h : WF f) :
    appendOrWrite f rows = write f ((CsvFile.read f).getD [] ++ rows) := by
  match f, h with
  | none, _ => rfl
  | some (false, []), _ => rfl
  | some (true, old), _ => cases old <;> rfl

theorem appendOrWrite_wf (f : File) (rows : List Nat) (h : WF f) : WF (appendOrWrite f rows) :=
  appendOrWrite_eq_write f rows h ▸ write_wf f _

/-- AppendOrWrite: a missing or 0-byte file gets header + rows, an existing one gets the rows appended -/
theorem appendOrWrite_spec (f : File) (rows : List Nat) (h : WF f) :
    CsvFile.read (appendOrWrite f rows) = some ((match CsvFile.read f with | some old => old | none => []) ++ rows) := by
  rw [appendOrWrite_eq_write f rows h, write_replaces]
  cases CsvFile.read f <;> rfl

/-- a sequence of whole-file operations: the rows CsvFile.read back are those of the last write plus later appends -/
theorem write_then_appends (f : File) (rows : List Nat) (more : List (List Nat)) :
    CsvFile.read (more.foldl appendOrWrite (write f rows)) = some (rows ++ more.flatten) := by
  induction more generalizing f rows with
  | nil => simp [write_replaces]
  | cons m rest ih =>
    rw [List.foldl_cons, appendOrWrite_eq_write _ m (write_wf f rows), write_replaces, ih]
    simp

/-! ### reading maps columns by header name -/

/-- `updateColumnIndexes`: the position of each struct column in the file header (`none` = -1) -/
def columnIndex (fileHeader : List String) (col : String) : Option Nat :=
  let i := fileHeader.idxOf col
  if i < fileHeader.length then some i else none

/-- one decoded field: the record entry at the column's index -/
def field (fileHeader : List String) (record : List String) (col : String) : Option String :=
  (columnIndex fileHeader col).bind (fun i => record[i]?)

/-- **Column order and extra columns do not matter**: if the record carries value `v h` under every header `h`
    of the file (any order, any extra headers), each struct column present in the header decodes to its own value -/
theorem field_by_header (fileHeader : List String) (v : String → String) (col : String) (h : col ∈ fileHeader) :
    field fileHeader (fileHeader.map v) col = some (v col) := by
  have hi : fileHeader.idxOf col < fileHeader.length := List.idxOf_lt_length_of_mem h
  simp [field, columnIndex, hi]

/-- a struct column missing from the header is left at its zero value (index -1: skipped) -/
theorem field_missing (fileHeader record : List String) (col : String) (h : col ∉ fileHeader) :
    field fileHeader record col = none := by
  simp [field, columnIndex, List.idxOf_lt_length_iff, h]

/-! non-vacuity -/
example : field ["Extra", "Close", "Date"] ["junk", "1.5", "2020-01-02"] "Date" = some "2020-01-02" := by decide
example : CsvFile.read (appendOrWrite (appendOrWrite (write none [1, 2, 3]) [4]) [5, 6]) = some [1, 2, 3, 4, 5, 6] := by decide

end C11
