import IndicatorVerif.Model.Assets
/-
  C13 — Backtest delivers one result per (asset, strategy) with notifications in protocol order, for
  any worker count; rankings are non-increasing with a lawful comparator.
  Model: every asset contributes the block `assetBegin a, write a s₁ … write a sₖ, assetEnd a`; with
  several workers the report sees an interleaving of the blocks (each block keeps its own order,
  since one worker executes it sequentially) between `begin` and `end`.
-/
namespace C13
open Backtest

/-- an interleaving contains exactly the events of its parts -/
theorem interleave_perm {ls : List (List Ev)} {l : List Ev} (h : Interleave ls l) : l.Perm ls.flatten := by
  induction h with
  | nil => exact List.Perm.nil
  | skipEmpty ls l _ ih => simpa using ih
  | take pre post e t l _ ih =>
    simp only [List.flatten_append, List.flatten_cons, List.flatten_nil, List.cons_append,
      List.append_assoc] at ih ⊢
    exact (List.Perm.cons e ih).trans (List.perm_middle.symm)

/-- every part survives as a subsequence: the order inside one asset's block is preserved -/
theorem interleave_sublist {ls : List (List Ev)} {l : List Ev} (h : Interleave ls l) :
    ∀ b ∈ ls, b.Sublist l := by
  induction h with
  | nil => intro b hb; simp at hb
  | skipEmpty ls l _ ih =>
    intro b hb
    rcases List.mem_cons.mp hb with hb | hb
    · subst hb; exact List.nil_sublist _
    · exact ih b hb
  | take pre post e t l _ ih =>
    intro b hb
    simp only [List.mem_append, List.mem_cons, List.not_mem_nil, or_false] at hb
    rcases hb with (hb | hb) | hb
    · exact (ih b (by simp [hb])).cons e
    · subst hb; exact (ih t (by simp)).cons_cons e
    · exact (ih b (by simp [hb])).cons e

/-- **Every pair exactly once, for any worker count**: whatever the interleaving of the asset blocks, the
    write notifications are a permutation of all (asset, strategy) pairs -/
theorem pairs_once (names strategies : List String) (l : List Ev)
    (h : Interleave (names.map (block strategies)) l) :
    (l.filter (fun e => match e with | .write _ _ => true | _ => false)).Perm
      ((names.map (fun a => strategies.map (Ev.write a))).flatten) := by
  refine ((interleave_perm h).filter _).trans (.of_eq ?_)
  -- asset by asset: of a block, the filter keeps exactly the writes
  rw [List.filter_flatten, List.map_map]
  congr 1
  refine List.map_congr_left fun a _ => ?_
  simp [block, List.filter_append, List.filter_eq_self.mpr]

/-- **Protocol order inside an asset**: assetBegin a, then its writes in strategy order, then assetEnd a
    appear in that order in every interleaving -/
theorem block_order (names strategies : List String) (l : List Ev) (a : String) (ha : a ∈ names)
    (h : Interleave (names.map (block strategies)) l) : (block strategies a).Sublist l :=
  interleave_sublist h _ (List.mem_map.mpr ⟨a, ha, rfl⟩)

/-- one worker: the sequential trace is an interleaving (so everything above applies to it) -/
theorem seq_is_interleave (bs : List (List Ev)) : Interleave bs bs.flatten := by
  induction bs with
  | nil => exact Interleave.nil
  | cons b t ih =>
    induction b with
    | nil => exact Interleave.skipEmpty t _ ih
    | cons e r ihr =>
      have := Interleave.take [] t e r (r ++ t.flatten) (by simpa using ihr)
      simpa using this

/-! ### ranking -/

/-- insertion into a list kept in non-increasing order w.r.t. a "goes before" test -/
def insertBy (before : Int → Int → Bool) (x : Int) : List Int → List Int
  | [] => [x]
  | y :: t => if before x y then x :: y :: t else y :: insertBy before x t
def sortBy (before : Int → Int → Bool) (l : List Int) : List Int := l.foldr (insertBy before) []

/-- the fixed comparator: `cmp.Compare(b, a) < 0`, i.e. `a` goes before `b` iff `a > b` -/
def lawful (a b : Int) : Bool := decide (b < a)
/-- the old comparator `int(b.Outcome - a.Outcome) < 0` on outcomes measured in hundredths of a percentage
    point (`x / 100` truncates toward zero like Go's float→int conversion) -/
def truncating (a b : Int) : Bool := decide (Int.tdiv (b - a) 100 < 0)

theorem insertBy_perm (before : Int → Int → Bool) (x : Int) :
    ∀ l : List Int, (insertBy before x l).Perm (x :: l)
  | [] => .refl _
  | y :: t => by
    rw [insertBy]; split
    · exact .refl _
    · exact ((insertBy_perm before x t).cons y).trans (.swap x y t)

theorem insertBy_sorted (x : Int) : ∀ l : List Int, l.Pairwise (fun a b => b ≤ a) →
    (insertBy lawful x l).Pairwise (fun a b => b ≤ a)
  | [], _ => List.pairwise_singleton _ x
  | y :: t, h => by
    have ⟨hy, ht⟩ := List.pairwise_cons.mp h
    rw [insertBy]; split
    next hxy =>
      have hxy : y < x := by simpa [lawful] using hxy
      exact List.pairwise_cons.mpr
        ⟨List.forall_mem_cons.mpr ⟨by omega, fun z hz => by have := hy z hz; omega⟩, h⟩
    next hxy =>
      have hxy : ¬ y < x := by simpa [lawful] using hxy
      refine List.pairwise_cons.mpr ⟨fun z hz => ?_, insertBy_sorted x t ht⟩
      rcases List.mem_cons.mp ((insertBy_perm lawful x t).mem_iff.mp hz) with rfl | hz
      · omega
      · exact hy z hz

/-- **Ranking with the lawful comparator is non-increasing**: the first entry has the maximal outcome -/
theorem ranking_sorted (l : List Int) : (sortBy lawful l).Pairwise (fun a b => b ≤ a) := by
  induction l with
  | nil => simp [sortBy]
  | cons x t ih => exact insertBy_sorted x _ ih

/-- the truncating comparator leaves outcomes less than one percentage point apart in arbitrary order
    (witness: 0.10 % listed before 0.90 %) -/
theorem ranking_truncating_cmp_unsorted : ¬ (sortBy truncating [90, 10]).Pairwise (fun a b => b ≤ a) := by
  decide

/-! non-vacuity -/
example : runSeq ["A"] ["s1", "s2"] = [.begin_, .assetBegin "A", .write "A" "s1", .write "A" "s2", .assetEnd "A", .end_] := by
  decide

end C13
