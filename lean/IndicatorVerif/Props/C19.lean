import IndicatorVerif.Model.Assets
/-
  C19 — reader glue over an abstract parser: the CSV reader loop (`ReadFromReader`), the JSON array
  loop (`JSONToChan`) and the Tiingo status check, as total functions of the parser events.
  The parsers themselves (encoding/csv, encoding/json) and the HTTP client are the Go standard
  library: exercised with generated and mutated documents on every run, not proved.
-/
namespace C19

/-- one parser event: a record, or a parse error (`none`) -/
abbrev Event := Option (List String)

/-- `ReadFromReader` after the fix: a record is delivered when every mapped column index is inside the
    record and every field converts; the first parse error, short record or bad field stops the stream -/
def readLoop {Row : Type} (decode : List String → Option Row) : List Event → List Row
  | [] => []
  | none :: _ => []
  | some r :: t =>
    match decode r with
    | none => []
    | some row => row :: readLoop decode t

/-- the well-formed prefix of an event sequence -/
def goodPrefix {Row : Type} (decode : List String → Option Row) : List Event → List (List String)
  | some r :: t => if (decode r).isSome then r :: goodPrefix decode t else []
  | _ => []

/-- **Prefix law**: the reader delivers exactly the decoded records of the well-formed prefix, in order,
    and nothing else; it is a total function (no event sequence makes it fail) -/
theorem readLoop_is_prefix {Row : Type} (decode : List String → Option Row) (evs : List Event) :
    readLoop decode evs = (goodPrefix decode evs).filterMap decode := by
  fun_induction readLoop decode evs <;> simp_all [goodPrefix]

theorem readLoop_length_le {Row : Type} (decode : List String → Option Row) (evs : List Event) :
    (readLoop decode evs).length ≤ evs.length := by
  fun_induction readLoop decode evs <;> simp_all

/-- `mapM` in `Option` fails as soon as one element does -/
theorem mapM_none_of_mem {α β : Type} (f : α → Option β) {l : List α} {a : α} (ha : a ∈ l)
    (hf : f a = none) : l.mapM f = none := by
  induction l with
  | nil => cases ha
  | cons b t ih =>
    rw [List.mapM_cons]
    rcases List.mem_cons.mp ha with rfl | h
    · simp [hf]
    · cases f b <;> simp [ih h]

/-- a record shorter than the mapped column index is *not* decodable (the bounds check of the fix):
    decoding by explicit indexes never reads outside the record -/
def decodeAt (idx : List Nat) (r : List String) : Option (List String) := idx.mapM (fun i => r[i]?)

theorem decodeAt_none_of_short (idx : List Nat) (r : List String) (i : Nat) (hi : i ∈ idx) (hr : r.length ≤ i) :
    decodeAt idx r = none :=
  mapM_none_of_mem _ hi (List.getElem?_eq_none hr)

/-- Tiingo: only status 200 is a success -/
def tiingoGet (status : Nat) (rows : List Nat) : Option (List Nat) := if status = 200 then some rows else none
theorem tiingo_status_error (status : Nat) (rows : List Nat) (h : status ≠ 200) : tiingoGet status rows = none := by
  simp [tiingoGet, h]

/-! non-vacuity -/
example : readLoop (decodeAt [0, 1]) [some ["a", "1"], some ["b"], some ["c", "3"]] = [["a", "1"]] := by decide

end C19
