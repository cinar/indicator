import IndicatorVerif.Props.C03Window
import IndicatorVerif.Model.Prims
/-
  C03 — clean termination PROVED for `trend.MovingSum` (the pipeline under Sma, hence under most indicators), for
  every input, every period p ≥ 1, every input capacity, every `Shift` buffer ≥ p (the library allocates
  cap(input) + p) and every schedule:
      cs := Duplicate(c, 2); cs[1] = Shift(cs[1], p, 0); sums := Operate(cs[0], cs[1], sum += c − b); Skip(sums, p−1)
  (`NetM.msumNet`: producer, Duplicate, Shift, the summing Operate, Skip, an independent reader).
  It is the window pipeline of C03Window whose Operate-like process is `sumOp` (closure `sumStepW`), so the canonical
  run is `front_canonical`.  The delivered values are tied to the list semantics the value theorems (C01, C02, C04)
  speak about: `evalL [xs] (Ind.movingSum p (input 0))` at element type ℤ.
-/
namespace C03
open Net NetM

/-- what the summing Operate emits from running sum `s`, shifted queue `q` and remaining input -/
def sums : Int → List Int → List Int → List Int
  | _, _, [] => []
  | _, [], _ :: _ => []
  | s, y :: q, x :: rest => (s + x - y) :: sums (s + x - y) (q ++ [x]) rest

/-- the values the network delivers are the list semantics of the `movingSum` term (what C01/C02/C04 reason about) -/
theorem sums_eq_scan (s : Int) (q xs : List Int) (hq : q ≠ []) :
    sums s q xs = Sig.scanL2 Ind.sumStep s xs ((q ++ xs).take xs.length) := by
  induction xs generalizing s q with
  | nil => cases q <;> simp [sums, Sig.scanL2]
  | cons x rest ih =>
    cases q with
    | nil => exact absurd rfl hq
    | cons y q =>
      have e : ((y :: q) ++ x :: rest).take (x :: rest).length = y :: ((q ++ [x]) ++ rest).take rest.length := by
        simp [List.take_succ_cons]
      rw [e]
      simp only [sums, Sig.scanL2, Ind.sumStep]
      rw [ih (s + x - y) (q ++ [x]) (by simp)]

theorem sums_eq_movingSum (p : Nat) (hp : 1 ≤ p) (xs : List Int) :
    (sums 0 (List.replicate p 0) xs).drop (p - 1) = Sig.evalL [xs] (Ind.movingSum p (Sig.input 0)) := by
  rw [sums_eq_scan 0 (List.replicate p 0) xs (by cases p with | zero => omega | succ n => simp [List.replicate_succ])]
  simp [Ind.movingSum, Sig.evalL, Ind.zero, Arith.nat, Arith.ofNat]

theorem winOuts_sumStepW (s : Int) (q xs : List Int) : winOuts sumStepW [s] q xs = sums s q xs := by
  induction xs generalizing s q with
  | nil => cases q <;> simp [winOuts, sums]
  | cons x rest ih =>
    cases q with
    | nil => simp [winOuts, sums]
    | cons y q => simp [winOuts, sums, sumStepW, ih]

theorem msumNet_winLike (p : Nat) : WinLike (msumNet 0 p) sumStepW p :=
  ⟨fun _ => rfl, fun _ => rfl, fun _ => rfl, sumOp_opLike 1 3 4, fun _ => rfl, rfl, rfl, rfl, rfl, rfl⟩

theorem msumNet_consumer (p : Nat) :
    Consumer (msumNet 0 p) (fun vs => tcons (⟨0, vs⟩, none) D0) (fun vs => tcons (⟨1, vs⟩, none) D0)
      (tcons ([], false) E0) (tcons ([], true) E0) :=
  sink_consumer (msumNet 0 p) (fun _ => rfl) (fun _ => rfl) (fun _ _ => rfl) rfl D0 (fun _ => rfl) E0

theorem msumNet_owned (cap buf : Nat) : Owned (msumNet cap buf) :=
  owned_of_ports_chk _ fun p => match p with
  | 0 => ⟨[], [0], producer_ports 0, rfl⟩
  | 1 => ⟨[0], [1, 2], dup2_ports 0 1 2, rfl⟩
  | 2 => ⟨[2], [3], shiftM_ports 2 3, rfl⟩
  | 3 => ⟨[1, 3], [4], sumOp_ports 1 3 4, rfl⟩
  | 4 => ⟨[4], [5], skipM_ports 4 5, rfl⟩
  | 5 => ⟨[5], [], sink_ports 5, rfl⟩
  | _ + 6 => ⟨[], [], halt_ports, rfl⟩

theorem msumInit_wf (cap buf : Nat) (xs : List Int) (p : Nat) : WF (msumNet cap buf) (msumInit xs p) := by
  intro q c h
  simp only [msumInit] at h
  split at h <;> simp at h

theorem msumNet_larger (cap buf p : Nat) (hb : p ≤ buf) : Larger (msumNet 0 p) (msumNet cap buf) := by
  constructor
  · rfl
  · intro c
    simp only [msumNet]
    split <;> omega

/-- **`trend.MovingSum` terminates cleanly and computes the moving sums — for every input, every period `p ≥ 1`, every
    input-channel capacity, every Shift buffer ≥ p (the library: cap + p) and every schedule:** every execution has at
    most `bound` steps, and any execution that can go no further has every process finished, every channel closed and
    empty, and has delivered exactly the list semantics of the `movingSum` term to the independent reader. -/
theorem movingSum_terminates_cleanly (xs : List Int) (p cap buf : Nat) (hp : 1 ≤ p) (hb : p ≤ buf) :
    ∃ bound, ∀ t s2, run (msumNet cap buf) t (msumInit xs p) = some s2 →
      t.length ≤ bound ∧
      (Terminal (msumNet cap buf) s2 →
        AllHalted (msumNet cap buf) s2 ∧ (∀ c, s2.chans c = ([], true) ∨ 6 ≤ c) ∧
        (s2.procs 5).1.reg = Sig.evalL [xs] (Ind.movingSum p (Sig.input 0))) := by
  have hr := front_canonical (msumNet_winLike p) (msumNet_consumer p) hp xs [0] (p - 1)
  rw [← winInit_eq [0] xs p hp] at hr
  obtain ⟨⟨b, h⟩, hA, -⟩ := clean_of_reach _ _ (msumNet_larger cap buf p hb) _ _
    (owned_safe _ (msumNet_owned cap buf) _ (msumInit_wf cap buf xs p)) hr
    (front_allHalted (msumNet_winLike p) (msumNet_consumer p) _)
  refine ⟨b, fun t s2 h2 => ⟨(h t s2 h2).1, fun hT => ?_⟩⟩
  obtain rfl := (h t s2 h2).2 hT
  refine ⟨hA, fun c => ?_, by rw [← sums_eq_movingSum p hp xs, ← winOuts_sumStepW]; rfl⟩
  match c with
  | 0 | 1 | 2 | 3 | 4 | 5 => exact .inl rfl
  | n + 6 => exact .inr (by omega)

/-- the library's own buffering: `Shift` allocates `cap(input) + p` -/
theorem movingSum_library_buffers (xs : List Int) (p cap : Nat) (hp : 1 ≤ p) :
    ∃ bound, ∀ t s2, run (msumNet cap (cap + p)) t (msumInit xs p) = some s2 →
      t.length ≤ bound ∧ (Terminal (msumNet cap (cap + p)) s2 → AllHalted (msumNet cap (cap + p)) s2) := by
  obtain ⟨b, h⟩ := movingSum_terminates_cleanly xs p cap (cap + p) hp (by omega)
  exact ⟨b, fun t s2 h2 => ⟨(h t s2 h2).1, fun hT => ((h t s2 h2).2 hT).1⟩⟩

/-- `trend.MovingSum` as the instance `f := sumStepW`, `st0 := [0]` of the general theorem -/
theorem movingSum_as_window (xs : List Int) (p cap buf : Nat) (hp : 1 ≤ p) (hb : p ≤ buf) :
    ∃ bound, ∀ t s2, run (winNet sumStepW cap buf) t (winInit [0] xs p) = some s2 →
      t.length ≤ bound ∧
      (Terminal (winNet sumStepW cap buf) s2 →
        AllHalted (winNet sumStepW cap buf) s2 ∧ (∀ c, s2.chans c = ([], true) ∨ 6 ≤ c) ∧
        (s2.procs 5).1.reg = Sig.evalL [xs] (Ind.movingSum p (Sig.input 0))) := by
  obtain ⟨b, h⟩ := window_terminates_cleanly sumStepW [0] xs p cap buf hp hb
  refine ⟨b, fun t s2 h2 => ⟨(h t s2 h2).1, fun hT => ?_⟩⟩
  obtain ⟨hA, hC, hR⟩ := (h t s2 h2).2 hT
  exact ⟨hA, hC, by rw [hR, winOuts_sumStepW, sums_eq_movingSum p hp xs]⟩

example : NetM.msumRun 0 3 3 [1, 2, 3, 4, 5, 6] = (true, true, [6, 9, 12, 15]) := by decide
/-- with a Shift buffer two short of the period the same pipeline deadlocks on unbuffered channels -/
example : NetM.msumRun 0 1 3 [1, 2, 3, 4, 5, 6] = (true, false, []) := by decide

end C03
