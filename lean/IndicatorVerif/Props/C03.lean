import IndicatorVerif.Model.Net
import IndicatorVerif.Model.NetMachines
/-
  C03 — schedule independence of process networks (the class every pipeline belongs to).

  The discipline is a property of states: in `NoConflict N s` no two different processes are about to operate on the
  same END of a channel; `Safe N s` says so of every state reachable from `s`.  Under `Safe`:
  * `diamond'`       two different processes that can both move commute;
  * `determinacy'`   if ONE schedule reaches a terminal state, EVERY schedule can be extended to that same state and
                     none is longer: the terminal state — every process's local state (hence every value emitted, in
                     order), every queue, and whether it is a clean termination or a deadlock — does not depend on
                     the interleaving, the number of OS threads or the pacing of producers and consumers (which are
                     processes of the network);
  * `capacity_mono`  a run with small channel capacities is also a run (up to hand-over waits) with larger ones:
                     a clean termination observed with unbuffered inputs holds for every larger buffering.
  `Owned N` (one reader and one writer per channel for the whole run) with `WF` is the static special case
  (`owned_safe`); `diamond`, `determinacy`, … are the same theorems under it.  The state form is needed because
  `trend.Ema`, `Rma` and `Smma` are not `Owned`: their input channel `c` is first read by the goroutine of
  `helper.Head(c, period)` and later by the indicator's own goroutine (`for n := range c`), which starts reading only
  after it has received the seed value from `sma.Compute(Head(c, period))` — the reading end is handed over
  (`C03Ema.lean` proves `Safe` for it by `safe_of_invariant`).
  What is NOT proved here: that a concrete pipeline terminates cleanly for every configuration and length.  That is
  proved for some pipelines (`C03Change`, `C03Window`, `C03MovingSum`, `C03Sma`, `C03Ema`, `C03Chain`) and explored for
  the others by running the Go pipelines (one schedule suffices by `determinacy`, unbuffered inputs by `capacity_mono`).
-/
namespace C03
open Net

variable {L V : Type}

theorem upd_same {α : Type} (f : Nat → α) (i : Nat) (v : α) : upd f i v i = v := by simp [upd]
theorem upd_other {α : Type} (f : Nat → α) (i j : Nat) (v : α) (h : j ≠ i) : upd f i v j = f j := by simp [upd, h]
theorem upd_comm {α : Type} (f : Nat → α) (i j : Nat) (a b : α) (h : i ≠ j) :
    upd (upd f i a) j b = upd (upd f j b) i a := by
  funext k; simp only [upd]
  by_cases h1 : k = j
  · subst h1
    have h2 : ¬ k = i := fun e => h e.symm
    simp [h2]
  · simp [h1]
theorem upd_upd {α : Type} (f : Nat → α) (i : Nat) (a b : α) : upd (upd f i a) i b = upd f i b := by
  funext k; simp only [upd]; by_cases h1 : k = i <;> simp [h1]

theorem run_append (N : Network L V) (t1 t2 : List Nat) (s : St L V) :
    run N (t1 ++ t2) s = (run N t1 s).bind (run N t2) := by
  induction t1 generalizing s with
  | nil => simp [run]
  | cons p t ih =>
    simp only [List.cons_append, run]
    cases step N p s with
    | none => simp
    | some a => simp [ih]

/-! ### steps -/

/-- the five ways a process can move -/
inductive Fired (N : Network L V) (p : Nat) (s : St L V) : St L V → Prop
  | recvSome (d : Nat) (k : Option V → L) (v : V) (rest : List V) (cl : Bool) :
      (s.procs p).2 = none → N.act p (s.procs p).1 = .recv d k → s.chans d = (v :: rest, cl) →
      Fired N p s ⟨upd s.procs p (k (some v), none), upd s.chans d (rest, cl)⟩
  | recvNone (d : Nat) (k : Option V → L) :
      (s.procs p).2 = none → N.act p (s.procs p).1 = .recv d k → s.chans d = ([], true) →
      Fired N p s ⟨upd s.procs p (k none, none), upd s.chans d ([], true)⟩
  | send (d : Nat) (v : V) (k : L) (q : List V) :
      (s.procs p).2 = none → N.act p (s.procs p).1 = .send d v k → s.chans d = (q, false) →
      q.length < max 1 (N.cap d) →
      Fired N p s ⟨upd s.procs p (k, if N.cap d = 0 then some d else none), upd s.chans d (q ++ [v], false)⟩
  | close (d : Nat) (k : L) (q : List V) :
      (s.procs p).2 = none → N.act p (s.procs p).1 = .close d k → s.chans d = (q, false) →
      Fired N p s ⟨upd s.procs p (k, none), upd s.chans d (q, true)⟩
  | sync (d : Nat) (cl : Bool) :
      (s.procs p).2 = some d → s.chans d = ([], cl) →
      Fired N p s ⟨upd s.procs p ((s.procs p).1, none), upd s.chans d ([], cl)⟩

theorem fired_step (N : Network L V) (p : Nat) (s s' : St L V) (h : Fired N p s s') : step N p s = some s' := by
  cases h <;> simp_all [step, opOf, Op.chan, Op.fire]

theorem step_fired (N : Network L V) (p : Nat) (s s' : St L V) (h : step N p s = some s') : Fired N p s s' := by
  unfold step opOf at h
  rcases hp : (s.procs p).2 with _ | d
  · rcases ha : N.act p (s.procs p).1 with ⟨d, k⟩ | ⟨d, v, k⟩ | ⟨d, k⟩ | _ <;> simp only [hp, ha, Op.chan] at h
    · rcases hc : s.chans d with ⟨_ | ⟨x, r⟩, _ | _⟩ <;> simp only [hc, Op.fire, Option.some.injEq, reduceCtorEq] at h <;>
        subst h
      · exact .recvNone d k hp ha hc
      · exact .recvSome d k x r _ hp ha hc
      · exact .recvSome d k x r _ hp ha hc
    · rcases hc : s.chans d with ⟨q, _ | _⟩ <;> simp only [hc, Op.fire, reduceCtorEq] at h
      by_cases hl : q.length < max 1 (N.cap d) <;>
        simp only [hl, if_true, if_false, Option.some.injEq, reduceCtorEq] at h
      subst h; exact .send d v k q hp ha hc hl
    · rcases hc : s.chans d with ⟨q, _ | _⟩ <;> simp only [hc, Op.fire, Option.some.injEq, reduceCtorEq] at h
      subst h; exact .close d k q hp ha hc
    · exact absurd h (by simp)
  · simp only [hp, Op.chan] at h
    rcases hc : s.chans d with ⟨_ | ⟨x, r⟩, cl⟩ <;> simp only [hc, Op.fire, Option.some.injEq, reduceCtorEq] at h
    subst h; exact .sync d cl hp hc

theorem step_some (N : Network L V) (p : Nat) (s s' : St L V) (h : step N p s = some s') :
    ∃ c ps' cs', (opOf N p (s.procs p)).chan = some c ∧
      (opOf N p (s.procs p)).fire (N.cap c) (s.procs p).1 (s.chans c) = some (ps', cs') ∧
      s' = ⟨upd s.procs p ps', upd s.chans c cs'⟩ := by
  unfold step at h
  split at h
  · simp at h
  · rename_i c hc
    split at h
    · simp at h
    · rename_i ps' cs' hf
      exact ⟨c, ps', cs', hc, hf, by simpa using h.symm⟩

theorem step_of (N : Network L V) (p : Nat) (s : St L V) (c : Nat) (ps' : PS L) (cs' : CS V)
    (hc : (opOf N p (s.procs p)).chan = some c)
    (hf : (opOf N p (s.procs p)).fire (N.cap c) (s.procs p).1 (s.chans c) = some (ps', cs')) :
    step N p s = some ⟨upd s.procs p ps', upd s.chans c cs'⟩ := by
  unfold step; simp [hc, hf]

theorem role (o : Op L V) (c : Nat) (h : o.chan = some c) : o.isReader = true ∨ o.isWriter = true := by
  cases o <;> simp [Op.chan, Op.isReader, Op.isWriter] at h ⊢

/-! ### the reader's and the writer's operations on one channel commute -/

theorem fire_comm (cap : Nat) (l1 l2 : L) (r w : Op L V) (hr : r.isReader = true) (hw : w.isWriter = true)
    (cs cs1 cs2 : CS V) (p1 p2 : PS L)
    (h1 : r.fire cap l1 cs = some (p1, cs1)) (h2 : w.fire cap l2 cs = some (p2, cs2)) :
    ∃ cs', r.fire cap l1 cs2 = some (p1, cs') ∧ w.fire cap l2 cs1 = some (p2, cs') := by
  obtain ⟨q, cl⟩ := cs
  cases r with
  | rd c k =>
    cases w with
    | snd c' v k' =>
      cases cl with
      | true => simp [Op.fire] at h2
      | false =>
        cases q with
        | nil => simp [Op.fire] at h1
        | cons x rest =>
          simp only [Op.fire] at h1 h2
          split at h2
          · rename_i hlen
            simp only [Option.some.injEq, Prod.mk.injEq] at h1 h2
            obtain ⟨rfl, rfl⟩ := h1
            obtain ⟨rfl, rfl⟩ := h2
            refine ⟨(rest ++ [v], false), by simp [Op.fire], ?_⟩
            have : rest.length < max 1 cap := by simp only [List.length_cons] at hlen; omega
            simp [Op.fire, this]
          · simp at h2
    | cls c' k' =>
      cases cl with
      | true => simp [Op.fire] at h2
      | false =>
        cases q with
        | nil => simp [Op.fire] at h1
        | cons x rest =>
          simp only [Op.fire, Option.some.injEq, Prod.mk.injEq] at h1 h2
          obtain ⟨rfl, rfl⟩ := h1
          obtain ⟨rfl, rfl⟩ := h2
          exact ⟨(rest, true), by simp [Op.fire], by simp [Op.fire]⟩
    | sync c' =>
      cases q with
      | cons x rest => simp [Op.fire] at h2
      | nil =>
        cases cl with
        | false => simp [Op.fire] at h1
        | true =>
          simp only [Op.fire, Option.some.injEq, Prod.mk.injEq] at h1 h2
          obtain ⟨rfl, rfl⟩ := h1
          obtain ⟨rfl, rfl⟩ := h2
          exact ⟨([], true), by simp [Op.fire], by simp [Op.fire]⟩
    | rd _ _ => simp [Op.isWriter] at hw
    | halt => simp [Op.isWriter] at hw
  | snd _ _ _ => simp [Op.isReader] at hr
  | cls _ _ => simp [Op.isReader] at hr
  | sync _ => simp [Op.isReader] at hr
  | halt => simp [Op.isReader] at hr

/-! ### conflict-free states -/

/-- no two different processes are about to use the same end of a channel: if both are about to operate on `c`, one
    reads it and the other writes it -/
def NoConflict (N : Network L V) (s : St L V) : Prop :=
  ∀ p q c, p ≠ q → (opOf N p (s.procs p)).chan = some c → (opOf N q (s.procs q)).chan = some c →
    ((opOf N p (s.procs p)).isReader = true ∧ (opOf N q (s.procs q)).isWriter = true) ∨
    ((opOf N p (s.procs p)).isWriter = true ∧ (opOf N q (s.procs q)).isReader = true)

/-- every state reachable from `s` is free of conflicts -/
def Safe (N : Network L V) (s : St L V) : Prop := ∀ t s', run N t s = some s' → NoConflict N s'

theorem safe_here (N : Network L V) (s : St L V) (h : Safe N s) : NoConflict N s := h [] s rfl

theorem safe_step (N : Network L V) (s a : St L V) (p : Nat) (h : Safe N s) (hp : step N p s = some a) : Safe N a := by
  intro t s' hr
  exact h (p :: t) s' (by simp [run, hp, hr])

theorem safe_run (N : Network L V) (t : List Nat) (s a : St L V) (h : Safe N s) (hr : run N t s = some a) : Safe N a := by
  intro t' s' hr'
  exact h (t ++ t') s' (by rw [run_append, hr]; simpa using hr')

/-- an inductive invariant that excludes conflicts gives `Safe` -/
theorem safe_of_invariant (N : Network L V) (J : St L V → Prop)
    (hstep : ∀ s p a, J s → step N p s = some a → J a) (hnc : ∀ s, J s → NoConflict N s)
    (s : St L V) (h0 : J s) : Safe N s := by
  intro t
  induction t generalizing s with
  | nil => intro s' hr; simp only [run, Option.some.injEq] at hr; subst hr; exact hnc _ h0
  | cons p rest ih =>
    intro s' hr
    simp only [run] at hr
    cases hp : step N p s with
    | none => simp [hp] at hr
    | some a => simp only [hp, Option.bind_some] at hr; exact ih a (hstep s p a h0 hp) s' hr

/-- **Diamond** under `NoConflict`: two different processes that can both move commute -/
theorem diamond' (N : Network L V) (s : St L V) (hN : NoConflict N s) (p q : Nat) (hpq : p ≠ q)
    (s1 s2 : St L V) (h1 : step N p s = some s1) (h2 : step N q s = some s2) :
    ∃ s', step N q s1 = some s' ∧ step N p s2 = some s' := by
  obtain ⟨c, ps1, cs1, hc1, hf1, rfl⟩ := step_some N p s s1 h1
  obtain ⟨d, ps2, cs2, hc2, hf2, rfl⟩ := step_some N q s s2 h2
  have hqp : q ≠ p := fun h => hpq h.symm
  by_cases hcd : c = d
  · subst hcd
    have key : ∀ (p q : Nat) (ps1 ps2 : PS L) (cs1 cs2 : CS V), p ≠ q →
        (opOf N p (s.procs p)).chan = some c → (opOf N q (s.procs q)).chan = some c →
        (opOf N p (s.procs p)).fire (N.cap c) (s.procs p).1 (s.chans c) = some (ps1, cs1) →
        (opOf N q (s.procs q)).fire (N.cap c) (s.procs q).1 (s.chans c) = some (ps2, cs2) →
        (opOf N p (s.procs p)).isReader = true → (opOf N q (s.procs q)).isWriter = true →
        ∃ s', step N q ⟨upd s.procs p ps1, upd s.chans c cs1⟩ = some s' ∧
              step N p ⟨upd s.procs q ps2, upd s.chans c cs2⟩ = some s' := by
      intro p q ps1 ps2 cs1 cs2 hpq hc1 hc2 hf1 hf2 hr hw
      have hqp : q ≠ p := fun h => hpq h.symm
      obtain ⟨cs', g1, g2⟩ := fire_comm (N.cap c) _ _ _ _ hr hw _ _ _ _ _ hf1 hf2
      refine ⟨⟨upd (upd s.procs p ps1) q ps2, upd s.chans c cs'⟩, ?_, ?_⟩
      · have := step_of N q ⟨upd s.procs p ps1, upd s.chans c cs1⟩ c ps2 cs'
          (by simpa [upd_other _ _ _ _ hqp] using hc2)
          (by simpa [upd_other _ _ _ _ hqp, upd_same] using g2)
        simpa [upd_upd] using this
      · have := step_of N p ⟨upd s.procs q ps2, upd s.chans c cs2⟩ c ps1 cs'
          (by simpa [upd_other _ _ _ _ hpq] using hc1)
          (by simpa [upd_other _ _ _ _ hpq, upd_same] using g1)
        rw [upd_comm _ _ _ _ _ hpq]
        simpa [upd_upd] using this
    rcases hN p q c hpq hc1 hc2 with ⟨hr, hw⟩ | ⟨hw, hr⟩
    · exact key p q ps1 ps2 cs1 cs2 hpq hc1 hc2 hf1 hf2 hr hw
    · obtain ⟨s', g1, g2⟩ := key q p ps2 ps1 cs2 cs1 hqp hc2 hc1 hf2 hf1 hr hw
      exact ⟨s', g2, g1⟩
  · have hdc : d ≠ c := fun h => hcd h.symm
    refine ⟨⟨upd (upd s.procs p ps1) q ps2, upd (upd s.chans c cs1) d cs2⟩, ?_, ?_⟩
    · exact step_of N q ⟨upd s.procs p ps1, upd s.chans c cs1⟩ d ps2 cs2
        (by simpa [upd_other _ _ _ _ hqp] using hc2)
        (by simpa [upd_other _ _ _ _ hqp, upd_other _ _ _ _ hdc] using hf2)
    · have := step_of N p ⟨upd s.procs q ps2, upd s.chans d cs2⟩ c ps1 cs1
        (by simpa [upd_other _ _ _ _ hpq] using hc1)
        (by simpa [upd_other _ _ _ _ hpq, upd_other _ _ _ _ hcd] using hf1)
      rw [upd_comm _ _ _ _ _ hpq, upd_comm _ _ _ _ _ hcd]
      exact this

theorem strip' (N : Network L V) (t : List Nat) (s a e : St L V) (p : Nat) (hS : Safe N s)
    (hp : step N p s = some a) (hr : run N t s = some e) (hT : Terminal N e) :
    ∃ t', run N t' a = some e ∧ t'.length + 1 = t.length := by
  induction t generalizing s a with
  | nil =>
    simp only [run, Option.some.injEq] at hr; subst hr
    rw [hT p] at hp; simp at hp
  | cons q rest ih =>
    simp only [run] at hr
    cases hq : step N q s with
    | none => simp [hq] at hr
    | some b =>
      simp only [hq, Option.bind_some] at hr
      by_cases hqp : q = p
      · subst hqp
        rw [hq] at hp; simp only [Option.some.injEq] at hp; subst hp
        exact ⟨rest, hr, rfl⟩
      · obtain ⟨d, h1, h2⟩ := diamond' N s (safe_here N s hS) p q (fun h => hqp h.symm) a b hp hq
        obtain ⟨r', hr', hl⟩ := ih b d (safe_step N s b q hS hq) h2 hr
        refine ⟨q :: r', ?_, by simp [hl]⟩
        simp [run, h1, hr']

/-- **Determinacy** under `Safe`: if one schedule reaches a terminal state `e`, every other schedule is at most as long
    and can be continued to `e` -/
theorem determinacy' (N : Network L V) (t1 t2 : List Nat) (s e s2 : St L V) (hS : Safe N s)
    (h1 : run N t1 s = some e) (hT : Terminal N e) (h2 : run N t2 s = some s2) :
    ∃ t3, run N t3 s2 = some e ∧ t2.length + t3.length = t1.length := by
  induction t2 generalizing s t1 with
  | nil => simp only [run, Option.some.injEq] at h2; subst h2; exact ⟨t1, h1, by simp⟩
  | cons p rest ih =>
    simp only [run] at h2
    cases hp : step N p s with
    | none => simp [hp] at h2
    | some a =>
      simp only [hp, Option.bind_some] at h2
      obtain ⟨t1', hr, hl⟩ := strip' N t1 s a e p hS hp h1 hT
      obtain ⟨t3, h3, hl3⟩ := ih t1' a (safe_step N s a p hS hp) hr h2
      exact ⟨t3, h3, by simp only [List.length_cons]; omega⟩

theorem run_terminal_nil (N : Network L V) (t : List Nat) (s e : St L V) (hT : Terminal N s)
    (h : run N t s = some e) : t = [] ∧ e = s := by
  cases t with
  | nil => simp only [run, Option.some.injEq] at h; exact ⟨rfl, h.symm⟩
  | cons p rest => simp [run, hT p] at h


theorem terminal_unique' (N : Network L V) (t1 t2 : List Nat) (s e1 e2 : St L V) (hS : Safe N s)
    (h1 : run N t1 s = some e1) (hT1 : Terminal N e1) (h2 : run N t2 s = some e2) (hT2 : Terminal N e2) :
    e1 = e2 ∧ t1.length = t2.length := by
  obtain ⟨t3, h3, hl⟩ := determinacy' N t1 t2 s e1 e2 hS h1 hT1 h2
  obtain ⟨rfl, rfl⟩ := run_terminal_nil N t3 e2 e1 hT2 h3
  exact ⟨rfl, by simpa using hl.symm⟩

theorem no_longer_schedule' (N : Network L V) (t1 t2 : List Nat) (s e s2 : St L V) (hS : Safe N s)
    (h1 : run N t1 s = some e) (hT : Terminal N e) (h2 : run N t2 s = some s2) : t2.length ≤ t1.length := by
  obtain ⟨t3, _, hl⟩ := determinacy' N t1 t2 s e s2 hS h1 hT h2; omega

theorem allHalted_terminal (N : Network L V) (s : St L V) (h : AllHalted N s) : Terminal N s := by
  intro p
  obtain ⟨h1, h2⟩ := h p
  unfold step opOf
  simp [h1, h2, Op.chan]

/-! ### larger capacities -/

/-- same processes and ownership, pointwise larger capacities -/
structure Larger (N N' : Network L V) : Prop where
  act_eq : N'.act = N.act
  cap_le : ∀ c, N.cap c ≤ N'.cap c

/-- `s'` is `s` except that some processes that wait for a hand-over in `s` do not wait in `s'` -/
def Rel (s s' : St L V) : Prop :=
  s'.chans = s.chans ∧ ∀ p, (s'.procs p).1 = (s.procs p).1 ∧ ((s'.procs p).2 = (s.procs p).2 ∨ (s'.procs p).2 = none)

theorem rel_refl (s : St L V) : Rel s s := ⟨rfl, fun _ => ⟨rfl, Or.inl rfl⟩⟩

theorem rel_upd (s s' : St L V) (h : Rel s s') (p c : Nat) (ps ps' : PS L) (cs : CS V)
    (h1 : ps'.1 = ps.1) (h2 : ps'.2 = ps.2 ∨ ps'.2 = none) :
    Rel ⟨upd s.procs p ps, upd s.chans c cs⟩ ⟨upd s'.procs p ps', upd s'.chans c cs⟩ := by
  refine ⟨by simp [h.1], ?_⟩
  intro q
  by_cases hq : q = p
  · subst hq; simp [upd_same, h1, h2]
  · simp only [upd_other _ _ _ _ hq]; exact h.2 q

/-- every step with the small capacities is a step, or a skipped hand-over wait, with the larger ones -/
theorem step_sim (N N' : Network L V) (hL : Larger N N') (p : Nat) (s s' a : St L V) (hR : Rel s s')
    (h : step N p s = some a) : (∃ a', step N' p s' = some a' ∧ Rel a a') ∨ Rel a s' := by
  obtain ⟨hl, hpd⟩ := hR.2 p
  have hact : N'.act p (s'.procs p).1 = N.act p (s.procs p).1 := by rw [hL.act_eq, hl]
  have hfl : (s.procs p).2 = none → (s'.procs p).2 = none := fun e => hpd.elim (·.trans e) id
  have hch : ∀ d, s'.chans d = s.chans d := fun d => by rw [hR.1]
  cases step_fired N p s a h with
  | recvSome d k v rest cl hp ha hc =>
    exact .inl ⟨_, fired_step _ _ _ _ (.recvSome d k v rest cl (hfl hp) (hact.trans ha) ((hch d).trans hc)),
      rel_upd s s' hR p d _ _ _ rfl (.inl rfl)⟩
  | recvNone d k hp ha hc =>
    exact .inl ⟨_, fired_step _ _ _ _ (.recvNone d k (hfl hp) (hact.trans ha) ((hch d).trans hc)),
      rel_upd s s' hR p d _ _ _ rfl (.inl rfl)⟩
  | send d v k q hp ha hc hlen =>
    have hcap := hL.cap_le d
    refine .inl ⟨_, fired_step _ _ _ _ (.send d v k q (hfl hp) (hact.trans ha) ((hch d).trans hc) (by omega)),
      rel_upd s s' hR p d _ _ _ rfl ?_⟩
    by_cases h0 : N'.cap d = 0
    · exact .inl (by simp [h0, show N.cap d = 0 by omega])
    · exact .inr (by simp [h0])
  | close d k q hp ha hc =>
    exact .inl ⟨_, fired_step _ _ _ _ (.close d k q (hfl hp) (hact.trans ha) ((hch d).trans hc)),
      rel_upd s s' hR p d _ _ _ rfl (.inl rfl)⟩
  | sync d cl hp hc =>
    rcases hpd with e | e
    · exact .inl ⟨_, fired_step _ _ _ _ (.sync d cl (e.trans hp) ((hch d).trans hc)),
        rel_upd s s' hR p d _ _ _ hl (.inl rfl)⟩
    · -- the larger network never started this wait: the step changes nothing it can see
      refine .inr ⟨?_, fun q => ?_⟩
      · funext c; by_cases hcd : c = d
        · subst hcd; rw [hch, hc]; exact (upd_same ..).symm
        · rw [hch]; exact (upd_other _ _ _ _ hcd).symm
      · by_cases hq : q = p
        · subst hq; simp [upd_same, hl, e]
        · simp only [upd_other _ _ _ _ hq]; exact hR.2 q

/-- **Capacity monotonicity**: every run with the small capacities is matched by a run with the larger ones
    that ends in the same queues and local states -/
theorem capacity_mono (N N' : Network L V) (hL : Larger N N') (t : List Nat) (s s' e : St L V) (hR : Rel s s')
    (h : run N t s = some e) : ∃ t' e', run N' t' s' = some e' ∧ Rel e e' ∧ t'.length ≤ t.length := by
  induction t generalizing s s' with
  | nil => simp only [run, Option.some.injEq] at h; subst h; exact ⟨[], s', rfl, hR, by simp⟩
  | cons p rest ih =>
    simp only [run] at h
    cases hp : step N p s with
    | none => simp [hp] at h
    | some a =>
      simp only [hp, Option.bind_some] at h
      rcases step_sim N N' hL p s s' a hR hp with ⟨a', ha', hRa⟩ | hRa
      · obtain ⟨t', e', hr, hRe, hl⟩ := ih a a' hRa h
        exact ⟨p :: t', e', by simp [run, ha', hr], hRe, by simp; omega⟩
      · obtain ⟨t', e', hr, hRe, hl⟩ := ih a s' hRa h
        exact ⟨t', e', hr, hRe, by simp; omega⟩

theorem rel_allHalted (N N' : Network L V) (hL : Larger N N') (e e' : St L V) (hR : Rel e e')
    (h : AllHalted N e) : AllHalted N' e' := by
  intro p
  obtain ⟨h1, h2⟩ := h p
  obtain ⟨hl, hpd⟩ := hR.2 p
  refine ⟨by rcases hpd with x | x; exact x.trans h1; exact x, ?_⟩
  rw [hL.act_eq, hl]; exact h2

theorem clean_termination_for_larger_capacities' (N N' : Network L V) (hL : Larger N N')
    (t : List Nat) (s e : St L V) (hS' : Safe N' s) (h : run N t s = some e) (hH : AllHalted N e)
    (t2 : List Nat) (e2 : St L V) (h2 : run N' t2 s = some e2) (hT2 : Terminal N' e2) :
    AllHalted N' e2 ∧ e2.chans = e.chans ∧ ∀ p, (e2.procs p).1 = (e.procs p).1 := by
  obtain ⟨t', e', hr, hRe, _⟩ := capacity_mono N N' hL t s s e (rel_refl s) h
  have hH' := rel_allHalted N N' hL e e' hRe hH
  obtain ⟨rfl, _⟩ := terminal_unique' N' t' t2 s e' e2 hS' hr (allHalted_terminal N' e' hH') h2 hT2
  exact ⟨hH', hRe.1, fun p => (hRe.2 p).1⟩

/-! ### the static discipline: one reader and one writer per channel -/

/-- one reader and one writer per channel; a process only waits for the hand-over of a channel it writes -/
structure Owned (N : Network L V) : Prop where
  recv_owner : ∀ p l c k, N.act p l = .recv c k → N.rd c = p
  send_owner : ∀ p l c v k, N.act p l = .send c v k → N.wr c = p
  close_owner : ∀ p l c k, N.act p l = .close c k → N.wr c = p

def WF (N : Network L V) (s : St L V) : Prop := ∀ p c, (s.procs p).2 = some c → N.wr c = p

theorem reader_owner (N : Network L V) (hO : Owned N) (p : Nat) (ps : PS L) (c : Nat)
    (hr : (opOf N p ps).isReader = true) (hc : (opOf N p ps).chan = some c) : N.rd c = p := by
  unfold opOf at hr hc
  cases hp : ps.2 with
  | some c' => simp [hp, Op.isReader] at hr
  | none =>
    simp only [hp] at hr hc
    cases ha : N.act p ps.1 with
    | recv c' k => simp only [ha, Op.chan, Option.some.injEq] at hc; subst hc; exact hO.recv_owner p _ _ _ ha
    | send c' v k => simp [ha, Op.isReader] at hr
    | close c' k => simp [ha, Op.isReader] at hr
    | halt => simp [ha, Op.isReader] at hr

theorem writer_owner (N : Network L V) (hO : Owned N) (p : Nat) (ps : PS L) (c : Nat)
    (hwf : ∀ c', ps.2 = some c' → N.wr c' = p)
    (hw : (opOf N p ps).isWriter = true) (hc : (opOf N p ps).chan = some c) : N.wr c = p := by
  unfold opOf at hw hc
  cases hp : ps.2 with
  | some c' => simp only [hp, Op.chan, Option.some.injEq] at hc; subst hc; exact hwf _ hp
  | none =>
    simp only [hp] at hw hc
    cases ha : N.act p ps.1 with
    | recv c' k => simp [ha, Op.isWriter] at hw
    | send c' v k => simp only [ha, Op.chan, Option.some.injEq] at hc; subst hc; exact hO.send_owner p _ _ _ _ ha
    | close c' k => simp only [ha, Op.chan, Option.some.injEq] at hc; subst hc; exact hO.close_owner p _ _ _ ha
    | halt => simp [ha, Op.isWriter] at hw

/-- a step keeps the hand-over invariant: a process starts waiting only by a send on an unbuffered channel it writes -/
theorem step_wf (N : Network L V) (hO : Owned N) (p : Nat) (s s' : St L V) (hW : WF N s)
    (h : step N p s = some s') : WF N s' := by
  have key : ∀ (ps' : PS L) (chans' : Nat → CS V), (∀ c, ps'.2 = some c → N.wr c = p) →
      WF N ⟨upd s.procs p ps', chans'⟩ := by
    intro ps' chans' hps q c hq
    by_cases hqp : q = p
    · subst hqp; exact hps c (by simpa [upd_same] using hq)
    · exact hW q c (by simpa [upd_other _ _ _ _ hqp] using hq)
  cases step_fired N p s s' h
  case send d v k q hp ha hc hlen =>
    refine key _ _ fun c hc' => ?_
    split at hc' <;> simp only [Option.some.injEq, reduceCtorEq] at hc'
    subst hc'; exact hO.send_owner p _ _ _ _ ha
  all_goals exact key _ _ (fun c hc' => by simp at hc')

theorem run_wf (N : Network L V) (hO : Owned N) (t : List Nat) (s s' : St L V) (hW : WF N s)
    (h : run N t s = some s') : WF N s' := by
  induction t generalizing s with
  | nil => simp only [run, Option.some.injEq] at h; subst h; exact hW
  | cons p t ih =>
    simp only [run] at h
    cases hs : step N p s with
    | none => simp [hs] at h
    | some a => simp only [hs, Option.bind_some] at h; exact ih a (step_wf N hO p s a hW hs) h

/-- the static discipline is a special case -/
theorem owned_noConflict (N : Network L V) (hO : Owned N) (s : St L V) (hW : WF N s) : NoConflict N s := by
  intro p q c hpq hc1 hc2
  rcases role _ _ hc1 with hr1 | hw1
  · rcases role _ _ hc2 with hr2 | hw2
    · have e1 := reader_owner N hO p _ c hr1 hc1
      have e2 := reader_owner N hO q _ c hr2 hc2
      exact absurd (e1.symm.trans e2) hpq
    · exact Or.inl ⟨hr1, hw2⟩
  · rcases role _ _ hc2 with hr2 | hw2
    · exact Or.inr ⟨hw1, hr2⟩
    · have e1 := writer_owner N hO p _ c (fun c' h' => hW p c' h') hw1 hc1
      have e2 := writer_owner N hO q _ c (fun c' h' => hW q c' h') hw2 hc2
      exact absurd (e1.symm.trans e2) hpq

theorem owned_safe (N : Network L V) (hO : Owned N) (s : St L V) (hW : WF N s) : Safe N s :=
  fun t s' hr => owned_noConflict N hO s' (run_wf N hO t s s' hW hr)

/-- **Diamond**: two different processes that can both move commute -/
theorem diamond (N : Network L V) (hO : Owned N) (s : St L V) (hW : WF N s) (p q : Nat) (hpq : p ≠ q)
    (s1 s2 : St L V) (h1 : step N p s = some s1) (h2 : step N q s = some s2) :
    ∃ s', step N q s1 = some s' ∧ step N p s2 = some s' :=
  diamond' N s (owned_noConflict N hO s hW) p q hpq s1 s2 h1 h2

/-- **Determinacy**: if one schedule reaches a terminal state `e`, every other schedule is at most as long and can be
    continued to `e` -/
theorem determinacy (N : Network L V) (hO : Owned N) (t1 t2 : List Nat) (s e s2 : St L V) (hW : WF N s)
    (h1 : run N t1 s = some e) (hT : Terminal N e) (h2 : run N t2 s = some s2) :
    ∃ t3, run N t3 s2 = some e ∧ t2.length + t3.length = t1.length :=
  determinacy' N t1 t2 s e s2 (owned_safe N hO s hW) h1 hT h2

/-- **Schedule independence**: two schedules that both run to a terminal state end in the same state — the same
    local state of every process (hence the same values delivered, in the same order), the same queues, the same
    verdict (clean termination or deadlock) — after the same number of steps -/
theorem terminal_unique (N : Network L V) (hO : Owned N) (t1 t2 : List Nat) (s e1 e2 : St L V) (hW : WF N s)
    (h1 : run N t1 s = some e1) (hT1 : Terminal N e1) (h2 : run N t2 s = some e2) (hT2 : Terminal N e2) :
    e1 = e2 ∧ t1.length = t2.length :=
  terminal_unique' N t1 t2 s e1 e2 (owned_safe N hO s hW) h1 hT1 h2 hT2

/-- no schedule runs forever or longer than the one observed: a terminating schedule bounds all others -/
theorem no_longer_schedule (N : Network L V) (hO : Owned N) (t1 t2 : List Nat) (s e s2 : St L V) (hW : WF N s)
    (h1 : run N t1 s = some e) (hT : Terminal N e) (h2 : run N t2 s = some s2) : t2.length ≤ t1.length :=
  no_longer_schedule' N t1 t2 s e s2 (owned_safe N hO s hW) h1 hT h2

/-- **A clean termination observed with small buffers holds for every larger buffering and every schedule**: all
    schedules of the larger network that run to a terminal state end with every process finished, in the same local
    states (same delivered values) and queues -/
theorem clean_termination_for_larger_capacities (N N' : Network L V) (hO' : Owned N') (hL : Larger N N')
    (t : List Nat) (s e : St L V) (hW' : WF N' s) (h : run N t s = some e) (hH : AllHalted N e)
    (t2 : List Nat) (e2 : St L V) (h2 : run N' t2 s = some e2) (hT2 : Terminal N' e2) :
    AllHalted N' e2 ∧ e2.chans = e.chans ∧ ∀ p, (e2.procs p).1 = (e.procs p).1 :=
  clean_termination_for_larger_capacities' N N' hL t s e (owned_safe N' hO' s hW') h hH t2 e2 h2 hT2

end C03
