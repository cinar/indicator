import IndicatorVerif.Audit
import IndicatorVerif.Model.Arith
import IndicatorVerif.Model.Ring
import IndicatorVerif.Model.Bst
import IndicatorVerif.Model.Stream
import IndicatorVerif.Model.Sig
import IndicatorVerif.Model.Prims
import IndicatorVerif.Model.Indicators
import IndicatorVerif.Model.Registry
import IndicatorVerif.Proofs.Ring
import IndicatorVerif.Proofs.SigSound
import IndicatorVerif.Proofs.SigCausal
import IndicatorVerif.Props.C16
import IndicatorVerif.Props.C17
import IndicatorVerif.Spec.Formulas
import IndicatorVerif.Spec.Indicators
import IndicatorVerif.Proofs.SimpAttr
import IndicatorVerif.Proofs.Aligned
import IndicatorVerif.Props.C01
import IndicatorVerif.Props.C02
import IndicatorVerif.Props.C04
import IndicatorVerif.Props.C15
import IndicatorVerif.Props.C18
import IndicatorVerif.Proofs.ArithReal
import IndicatorVerif.Proofs.Agree
import IndicatorVerif.Proofs.AgreeReal
import IndicatorVerif.Proofs.AgreeTac
import IndicatorVerif.Props.C01Gen
import IndicatorVerif.Props.C01Int
import IndicatorVerif.Model.Strategies
import IndicatorVerif.Model.StrategyOps
import IndicatorVerif.Props.C05
import IndicatorVerif.Props.C06
import IndicatorVerif.Props.C07
import IndicatorVerif.Props.C08
import IndicatorVerif.Props.C14
import IndicatorVerif.Model.Assets
import IndicatorVerif.Props.C10
import IndicatorVerif.Props.C11
import IndicatorVerif.Props.C12
import IndicatorVerif.Props.C13
import IndicatorVerif.Props.C19
import IndicatorVerif.Model.Net
import IndicatorVerif.Model.NetMachines
import IndicatorVerif.Props.C03
import IndicatorVerif.Props.C03Run
import IndicatorVerif.Props.C03Ports
import IndicatorVerif.Props.C03Change
import IndicatorVerif.Props.C03MovingSum
import IndicatorVerif.Props.C03Ema
import IndicatorVerif.Props.C03Compose
import IndicatorVerif.Props.C03Sma
import IndicatorVerif.Props.C03Chain
import IndicatorVerif.Props.C03Window
import IndicatorVerif.Props.C18More
import IndicatorVerif.Props.C14More
import IndicatorVerif.Props.C16More
import IndicatorVerif.Props.C13More
import IndicatorVerif.Props.C09
import IndicatorVerif.Proofs.RangeReal
import IndicatorVerif.Proofs.ScaleReal
import IndicatorVerif.Props.C18Gen
import IndicatorVerif.Proofs.Bst
import IndicatorVerif.Proofs.ExtremaReal
import IndicatorVerif.Proofs.RingScan
import IndicatorVerif.Props.C05Hand
import IndicatorVerif.Props.C06Hand
import IndicatorVerif.Props.C06More
import IndicatorVerif.Props.C06Vwma
